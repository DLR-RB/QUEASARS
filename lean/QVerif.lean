import QVerif.Lemmas.Codec
import QVerif.Lemmas.Criteria
import QVerif.Lemmas.Cvar
import QVerif.Lemmas.DomainWall
import QVerif.Lemmas.DoubleCount
import QVerif.Lemmas.Encoder
import QVerif.Lemmas.EncoderPoly
import QVerif.Lemmas.EncoderSupp
import QVerif.Lemmas.Except
import QVerif.Lemmas.Genome
import QVerif.Lemmas.GenomeSort
import QVerif.Lemmas.Jssp
import QVerif.Lemmas.Lists
import QVerif.Lemmas.OptTerms
import QVerif.Lemmas.PairTerms
import QVerif.Lemmas.PipelineStates
import QVerif.Lemmas.RunnerData
import QVerif.Lemmas.RunnerFair
import QVerif.Lemmas.RunnerFrame
import QVerif.Lemmas.RunnerInv
import QVerif.Lemmas.RunnerLive
import QVerif.Lemmas.RunnerOnce
import QVerif.Lemmas.RunnerProg
import QVerif.Lemmas.RunnerRetry
import QVerif.Lemmas.RunnerStep
import QVerif.Lemmas.Solver
import QVerif.Lemmas.Sums
import QVerif.Model.Codec
import QVerif.Model.Criteria
import QVerif.Model.Cvar
import QVerif.Model.Encoder
import QVerif.Model.EncoderPoly
import QVerif.Model.Evqe
import QVerif.Model.Genome
import QVerif.Model.Install
import QVerif.Model.Jssp
import QVerif.Model.Pipeline
import QVerif.Model.RandomInstance
import QVerif.Model.Runner
import QVerif.Model.Seeds
import QVerif.Model.Solver
import QVerif.Props.C01
import QVerif.Props.C01Cvar
import QVerif.Props.C02
import QVerif.Props.C03
import QVerif.Props.C04
import QVerif.Props.C05
import QVerif.Props.C06
import QVerif.Props.C07
import QVerif.Props.C08
import QVerif.Props.C09
import QVerif.Props.C10
import QVerif.Props.C11
import QVerif.Props.C12
import QVerif.Props.C13
import QVerif.Props.C14
import QVerif.Props.C15
import QVerif.Props.C16
import QVerif.Props.C17
import QVerif.Props.C17Instances
import QVerif.Props.C18
import QVerif.Props.C19
import QVerif.Props.C20
