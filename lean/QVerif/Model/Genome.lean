/-!
# Model of the EVQE genome: `quantum_gate.py`, `circuit_layer.py`, `individual.py`

* gates / layers / individuals with the validity checks of the code,
* the structural operations (`change_parameter_values`, `change_layer_parameter_values`, `add_random_layers`,
  `remove_layers`, `get_genetic_distance`, `get_layer_parameter_values`),
* `random_layer` / `random_individual` / `add_random_layers` with every random draw supplied by an oracle
  (`choice([ROTATION, CONTROLLED_ROTATION])` → `Bool` (`true` = rotation), `sample(qubits, 2)` → a pair,
  `new_random_seed` is irrelevant for the structure),
* the parameter slots of a circuit, their names as Qiskit sees them, and the bindings produced by the
  different circuit views (C04; the bound gates themselves are in `Props/C16.lean`).

Parameter values are opaque tokens (`Val := Int`, `0` = the float `0`): the genome code only moves them around.
-/

namespace QVerif.Genome

abbrev Val := Int

/-- `EVQEGate` subclasses; the first field is `qubit_index`. `ctrl q c`: control on `q` for the rotation on `c`
(`controlled_qubit_index = c`); `crot q c`: controlled rotation on `q` with control qubit `c`. -/
inductive Gate where
  | id (q : Nat)
  | rot (q : Nat)
  | ctrl (q c : Nat)
  | crot (q c : Nat)
  deriving DecidableEq, Repr, Inhabited

def Gate.qubit : Gate → Nat
  | .id q | .rot q | .ctrl q _ | .crot q _ => q

def Gate.nParams : Gate → Nat
  | .rot _ | .crot _ _ => 3
  | _ => 0

def Gate.isControlled : Gate → Bool
  | .crot _ _ => true
  | _ => false

structure Layer where
  nQubits : Nat
  gates : List Gate
  deriving DecidableEq, Repr, Inhabited

def Layer.nParams (l : Layer) : Nat := (l.gates.map Gate.nParams).sum

def Layer.nControlled (l : Layer) : Nat := (l.gates.filter Gate.isControlled).length

/-- one iteration of the loop in `EVQECircuitLayer.is_valid` -/
def gateOk (gates : List Gate) (i : Nat) (g : Gate) : Bool :=
  g.qubit == i &&
  (match g with
   | .crot _ c => (match gates[c]? with | some (.ctrl _ c') => c' == i | _ => false)
   | .ctrl _ c => (match gates[c]? with | some (.crot _ c') => c' == i | _ => false)
   | _ => true)

/-- `EVQECircuitLayer.is_valid` -/
def Layer.isValid (l : Layer) : Bool :=
  l.gates.length == l.nQubits && (l.gates.zipIdx.all (fun (g, i) => gateOk l.gates i g))

structure Indiv where
  nQubits : Nat
  layers : List Layer
  values : List Val
  deriving DecidableEq, Repr, Inhabited

def totalParams (ls : List Layer) : Nat := (ls.map Layer.nParams).sum

/-- `EVQEIndividual.is_valid` -/
def Indiv.isValid (x : Indiv) : Bool :=
  !x.layers.isEmpty && x.layers.all (fun l => l.isValid && l.nQubits == x.nQubits) &&
    x.values.length == totalParams x.layers

inductive Err where
  | layerInvalid | individualInvalid | wrongValueCount | nLayersTooSmall | removedTooMany | qubitMismatch | fewerThanOneQubit
  | oracleExhausted
  deriving DecidableEq, Repr

def Err.toString : Err → String
  | .layerInvalid => "layerInvalid" | .individualInvalid => "individualInvalid"
  | .wrongValueCount => "wrongValueCount" | .nLayersTooSmall => "nLayersTooSmall"
  | .removedTooMany => "removedTooMany" | .qubitMismatch => "qubitMismatch"
  | .fewerThanOneQubit => "fewerThanOneQubit" | .oracleExhausted => "oracleExhausted"

def mkLayer (n : Nat) (gates : List Gate) : Except Err Layer :=
  let l : Layer := { nQubits := n, gates := gates }
  if l.isValid then .ok l else .error .layerInvalid

def mkIndiv (n : Nat) (layers : List Layer) (values : List Val) : Except Err Indiv :=
  let x : Indiv := { nQubits := n, layers := layers, values := values }
  if x.isValid then .ok x else .error .individualInvalid

/-- start offset of layer `i` in the flat value tuple (`layer_parameter_indices[i][0]`) -/
def offset (ls : List Layer) (i : Nat) : Nat := totalParams (ls.take i)

/-- `get_layer_parameter_values` for a (non-negative, in range) layer index -/
def layerValues (x : Indiv) (i : Nat) : List Val :=
  (x.values.drop (offset x.layers i)).take ((x.layers.getD i default).nParams)

/-- Python `layer_id % len(layers)` -/
def normIdx (layerId : Int) (n : Nat) : Nat := (layerId % (n : Int)).toNat

/-- `change_parameter_values` -/
def changeParameterValues (x : Indiv) (vals : List Val) : Except Err Indiv :=
  if vals.length ≠ totalParams x.layers then .error .wrongValueCount
  else mkIndiv x.nQubits x.layers vals

/-- `change_layer_parameter_values` -/
def changeLayerParameterValues (x : Indiv) (layerId : Int) (vals : List Val) : Except Err Indiv :=
  let i := normIdx layerId x.layers.length
  if vals.length ≠ (x.layers.getD i default).nParams then .error .wrongValueCount
  else
    let perLayer := (List.range x.layers.length).map (fun j => if j ≠ i then layerValues x j else vals)
    mkIndiv x.nQubits x.layers perLayer.flatten

/-- `remove_layers` -/
def removeLayers (x : Indiv) (k : Int) : Except Err Indiv :=
  if ¬ (0 < k) then .error .nLayersTooSmall
  else if ¬ (k < x.layers.length) then .error .removedTooMany
  else
    let layers := x.layers.take (x.layers.length - k.toNat)
    mkIndiv x.nQubits layers (x.values.take (totalParams layers))

/-- `get_genetic_distance` -/
def geneticDistance (a b : Indiv) : Int :=
  let n1 := a.layers.length
  let n2 := b.layers.length
  let nAll : Nat := (n1 + n2 + 1) / 2
  let shared := ((a.layers.zip b.layers).filter (fun (x, y) => x == y)).length
  (nAll : Int) - shared

/-! ## random layer generation with an oracle -/

structure Oracle where
  coins : List Bool            -- successive `choice([ROTATION, CONTROLLED_ROTATION])`, `true` = ROTATION
  pairs : List (Nat × Nat)     -- successive `sample(controlled_rotation_qubits, 2)` = (rotation_qubit, control_qubit)
  deriving Repr

def prevGate (prev : Option Layer) (q : Nat) : Option Gate :=
  match prev with
  | none => none
  | some p => p.gates[q]?

/-- the first loop: per qubit either place a rotation or mark the qubit for a controlled rotation -/
def markLoop (prev : Option Layer) : List Nat → List Bool → List Gate → List Nat → Except Err (List Gate × List Nat × List Bool)
  | [], coins, gates, crq => .ok (gates, crq, coins)
  | q :: qs, coins, gates, crq =>
    match prevGate prev q with
    | some (.rot _) | some (.id _) => markLoop prev qs coins gates (crq ++ [q])
    | _ =>
      match coins with
      | [] => .error .oracleExhausted
      | c :: coins' =>
        if c then markLoop prev qs coins' (gates.set q (.rot q)) crq
        else markLoop prev qs coins' gates (crq ++ [q])

def inPrev (prev : Option Layer) (g : Gate) : Bool :=
  match prev with
  | none => false
  | some p => p.gates.contains g

/-- the `while len(controlled_rotation_qubits) >= 2` loop; one oracle pair per iteration -/
def pairLoop (prev : Option Layer) : List (Nat × Nat) → List Gate → List Nat → Except Err (List Gate × List Nat × List (Nat × Nat))
  | pairs, gates, crq =>
    if crq.length < 2 then .ok (gates, crq, pairs)
    else
      match pairs with
      | [] => .error .oracleExhausted
      | (r, c) :: rest =>
        if prev.isNone || (!inPrev prev (.crot r c) && !inPrev prev (.ctrl c r)) then
          pairLoop prev rest ((gates.set c (.ctrl c r)).set r (.crot r c)) ((crq.erase r).erase c)
        else pairLoop prev rest gates crq
termination_by pairs => pairs.length

/-- the last remaining qubit: a rotation if possible, otherwise an identity -/
def finalStep (prev : Option Layer) (gates : List Gate) (crq : List Nat) : List Gate :=
  match crq with
  | [q] =>
    (match prevGate prev q with
     | some (.rot _) => gates.set q (.id q)
     | _ => gates.set q (.rot q))
  | _ => gates

/-- `previous_layer is not None and previous_layer.n_qubits != n_qubits` -/
def qubitMismatch (prev : Option Layer) (n : Nat) : Bool :=
  match prev with
  | some p => decide (p.nQubits ≠ n)
  | none => false

/-- `EVQECircuitLayer.random_layer` (also returns the unused part of the oracle) -/
def randomLayer (n : Nat) (prev : Option Layer) (o : Oracle) : Except Err (Layer × Oracle) :=
  if n < 1 then .error .fewerThanOneQubit
  else if qubitMismatch prev n then .error .qubitMismatch
  else
    match markLoop prev (List.range n) o.coins ((List.range n).map Gate.id) [] with
    | .error e => .error e
    | .ok (g1, crq1, coins) =>
      match pairLoop prev o.pairs g1 crq1 with
      | .error e => .error e
      | .ok (g2, crq2, pairs) =>
        match mkLayer n (finalStep prev g2 crq2) with
        | .error e => .error e
        | .ok l => .ok (l, { coins := coins, pairs := pairs })

/-- the layer loop shared by `random_individual` (prev = none) and `add_random_layers` (prev = last layer):
each new layer is generated against the layer directly before it -/
def randomLayers (n : Nat) : Nat → Option Layer → Oracle → Except Err (List Layer × Oracle)
  | 0, _, o => .ok ([], o)
  | k + 1, prev, o =>
    match randomLayer n prev o with
    | .error e => .error e
    | .ok (l, o') =>
      match randomLayers n k (some l) o' with
      | .error e => .error e
      | .ok (ls, o'') => .ok (l :: ls, o'')

/-- `random_individual`; `vals` are the drawn parameter values (or zeros) -/
def randomIndividual (n nLayers : Nat) (o : Oracle) (vals : Nat → List Val) : Except Err Indiv :=
  match randomLayers n nLayers none o with
  | .error e => .error e
  | .ok (ls, _) => mkIndiv n ls (vals (totalParams ls))

/-- `add_random_layers` -/
def addRandomLayers (x : Indiv) (nLayers : Int) (o : Oracle) (vals : Nat → List Val) : Except Err Indiv :=
  if nLayers < 1 then .error .nLayersTooSmall
  else
    match randomLayers ((x.layers.headD default).nQubits) nLayers.toNat x.layers.getLast? o with
    | .error e => .error e
    | .ok (ls, _) => mkIndiv x.nQubits (x.layers ++ ls) (x.values ++ vals (totalParams ls))

/-! ## circuit views (C04) -/

/-- kind of a gate parameter; Qiskit orders the names alphabetically: `lambda < phi < theta` -/
inductive PKind | theta | phi | lam
  deriving DecidableEq, Repr

/-- a parameter slot of the circuit: layer, qubit, kind -/
structure Slot where
  layer : Nat
  qubit : Nat
  kind : PKind
  deriving DecidableEq, Repr

/-- the slots of one layer in the order in which the code *creates* the parameters (gate order; theta, phi, lambda) -/
def layerSlots (i : Nat) (l : Layer) : List Slot :=
  l.gates.flatMap (fun g => if g.nParams = 3 then [⟨i, g.qubit, .theta⟩, ⟨i, g.qubit, .phi⟩, ⟨i, g.qubit, .lam⟩] else [])

/-- character codes -/
def decimalDigits (n : Nat) : List Nat := (Nat.toDigits 10 n).map Char.toNat

/-- `w` decimal digits of `n`, most significant first — what `f"{n:0{w}d}"` prints when `n < 10^w` -/
def padDigits : Nat → Nat → List Nat
  | 0, _ => []
  | w + 1, n => (48 + n / 10 ^ w) :: padDigits w (n % 10 ^ w)

def kindName : PKind → List Nat
  | .theta => "theta".toList.map Char.toNat
  | .phi => "phi".toList.map Char.toNat
  | .lam => "lambda".toList.map Char.toNat

/-- the parameter name `layer{layer:09d}_q{qubit}_{kind}` as a list of character codes -/
def Slot.name (s : Slot) : List Nat :=
  ("layer".toList.map Char.toNat) ++ padDigits 9 s.layer ++ ("_q".toList.map Char.toNat) ++
    decimalDigits s.qubit ++ [95] ++ kindName s.kind

/-- `circuit.parameters`: the slots sorted by name (lexicographic order of the character codes — how Qiskit
sorts plain `Parameter`s) -/
def sortSlots (l : List Slot) : List Slot := l.mergeSort (fun s t => decide (s.name ≤ t.name))

/-- an assignment of values to slots -/
abbrev Binding := List (Slot × Val)

/-- positional `assign_parameters(values)` on a circuit whose parameters are `slots` -/
def bindPositional (slots : List Slot) (vals : List Val) : Binding := (sortSlots slots).zip vals

def allSlots (x : Indiv) : List Slot :=
  (List.range x.layers.length).flatMap (fun i => layerSlots i (x.layers.getD i default))

/-- `get_quantum_circuit()`: the fully parameterised circuit bound positionally with all values -/
def bindFull (x : Indiv) : Binding := bindPositional (allSlots x) x.values

/-- `get_partially_parameterized_quantum_circuit(S)` followed by positional binding of the remaining parameters
with the concatenated per-layer values of the symbolic layers (ascending layer order): non-symbolic layers are
bound layer-locally by `get_layer_gate`. -/
def bindPartial (x : Indiv) (symbolic : List Nat) : Binding :=
  let idxs := List.range x.layers.length
  let fixed := idxs.filter (fun i => !symbolic.contains i)
  let sym := idxs.filter (fun i => symbolic.contains i)
  let fixedB := fixed.flatMap (fun i => bindPositional (layerSlots i (x.layers.getD i default)) (layerValues x i))
  let symSlots := sym.flatMap (fun i => layerSlots i (x.layers.getD i default))
  let symVals := sym.flatMap (fun i => layerValues x i)
  fixedB ++ bindPositional symSlots symVals

def lookupSlot (b : Binding) (s : Slot) : Option Val := (b.find? (fun p => p.1 == s)).map Prod.snd

end QVerif.Genome
