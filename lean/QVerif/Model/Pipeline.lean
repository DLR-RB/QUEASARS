import QVerif.Model.Cvar

/-!
# Model of the circuit-evaluation pipeline (C03)

`circuit_evaluation.py`, `transpiling_primitives.py`, and the *interface* of the wrappers in `mutex_primitives.py`
(their internals are the subject of C06–C09).

What is logic is modelled; what is physics is a parameter:

* a primitive is a function from a list of pubs to a list of results (`Prim`); an *ideal* primitive answers every pub
  by a function of that pub alone (`Pointwise`);
* the wrappers are functions on primitives: the transpiling wrapper rewrites every pub, the mutex wrapper forwards,
  a batching wrapper runs the caller's pubs inside a larger batch and returns the caller's slice;
* the evaluators compose the initial state in front of every circuit, add measurements, zip circuits with parameter
  vectors, call the primitive once and turn result `i` into value `i`;
* the estimator's transpiling wrapper must re-lay-out the observable: `applyLayout` (Qiskit's
  `SparsePauliOp.apply_layout(transpiled.layout)`, which uses the FINAL index layout) against the physical
  position of every virtual qubit at the end of the transpiled circuit.  The invariance of the value is proved for
  Pauli observables on computational-basis states, their mixtures, and pure states (below, `State`).

Qubit `i` is list position `i` (the harness converts Qiskit's little-endian labels).
-/

namespace QVerif.Pipeline

/-! ## Primitives and wrappers -/

abbrev Prim (π ρ : Type) := List π → List ρ

/-- an ideal primitive: result `i` is a function of pub `i` only -/
def Pointwise {π ρ} (P : Prim π ρ) (ans : π → ρ) : Prop := ∀ pubs, P pubs = pubs.map ans

/-- a stack of the library's wrappers around a primitive -/
inductive Stack (π : Type) where
  | plain
  | transpiling (tr : π → π) (inner : Stack π)               -- `TranspilingSamplerV2` / `TranspilingEstimatorV2`
  | mutex (inner : Stack π)                                   -- `MutexSampler` / `MutexEstimator`
  | batching (before after : List π) (inner : Stack π)        -- `BatchingMutex…`: other callers' pubs in the same batch

/-- the primitive a caller sees through the stack -/
def Stack.wrap {π ρ} : Stack π → Prim π ρ → Prim π ρ
  | .plain, P => P
  | .transpiling tr s, P => fun pubs => s.wrap P (pubs.map tr)
  | .mutex s, P => s.wrap P
  | .batching before after s, P => fun pubs => ((s.wrap P (before ++ pubs ++ after)).drop before.length).take pubs.length

/-- every rewriting in the stack preserves the ideal answer -/
def Stack.Sound {π ρ} (ans : π → ρ) : Stack π → Prop
  | .plain => True
  | .transpiling tr s => (∀ p, ans (tr p) = ans p) ∧ s.Sound ans
  | .mutex s => s.Sound ans
  | .batching _ _ s => s.Sound ans

/-! ## Sampler-based evaluators -/

abbrev Bits := List Bool

/-- a measured counts dictionary in iteration order -/
abbrev Counts := List (Bits × Nat)

/-- `measure_quasi_distributions`: `count / shots`, paired with the objective value of the outcome -/
def quasi (f : Bits → Rat) (shots : Nat) (c : Counts) : QVerif.Cvar.Dist :=
  c.map (fun e => ((e.2 : Rat) / (shots : Rat), f e.1))

structure SamplerEval (Circ Par : Type) where
  compose : Circ → Circ → Circ          -- `initial_state_circuit.compose(circuit)`
  measureAll : Circ → Circ              -- `circuit.measure_all(inplace=False)`
  init : Option Circ
  shots : Nat
  f : Bits → Rat                        -- operator diagonal / bitstring function
  alpha : Rat

def SamplerEval.prep {Circ Par} (e : SamplerEval Circ Par) (c : Circ) : Circ :=
  e.measureAll (match e.init with | none => c | some i => e.compose i c)

/-- `OperatorSamplerCircuitEvaluator.evaluate_circuits` / `BitstringCircuitEvaluator.evaluate_circuits` -/
def SamplerEval.evaluate {Circ Par} (e : SamplerEval Circ Par) (P : Prim (Circ × Par) Counts)
    (circuits : List Circ) (params : List Par) : List Rat :=
  let pubs := (circuits.map e.prep).zip params
  (P pubs).map (fun c => QVerif.Cvar.getExpectation (quasi e.f e.shots c) e.alpha)

/-! ### Pubs that carry their shot count

`measure_quasi_distributions` submits `(circuit, parameter_values, shots)` and divides the returned counts by the SAME
`shots`; the wrappers hand the pubs on as `SamplerPub`s, each with its own shot count (a batch may mix pubs of evaluators
with different shot counts). -/

abbrev SPub (Circ Par : Type) := Circ × Par × Nat

def countsTotal (c : Counts) : Nat := (c.map (·.2)).sum

/-- `OperatorSamplerCircuitEvaluator.evaluate_circuits` / `BitstringCircuitEvaluator.evaluate_circuits` with the shot count in
the pub -/
def SamplerEval.evaluateS {Circ Par} (e : SamplerEval Circ Par) (P : Prim (SPub Circ Par) Counts)
    (circuits : List Circ) (params : List Par) : List Rat :=
  let pubs := ((circuits.map e.prep).zip params).map (fun cp => (cp.1, cp.2, e.shots))
  (P pubs).map (fun c => QVerif.Cvar.getExpectation (quasi e.f e.shots c) e.alpha)

/-- `TranspilingSamplerV2.run` on one coerced pub: the circuit is transpiled, parameter values and shots are kept -/
def transpileSPub {Circ Par} (pm : Circ → Circ) (p : SPub Circ Par) : SPub Circ Par := (pm p.1, p.2.1, p.2.2)

/-- a (defective) hand-over that submits a whole batch with one shot count -/
def overrideShots {Circ Par} (s : Nat) (p : SPub Circ Par) : SPub Circ Par := (p.1, p.2.1, s)

/-! ## Estimator-based evaluator -/

structure EstimatorEval (Circ Obs : Type) where
  compose : Circ → Circ → Circ
  init : Option Circ
  op : Obs

def EstimatorEval.prep {Circ Obs} (e : EstimatorEval Circ Obs) (c : Circ) : Circ :=
  match e.init with | none => c | some i => e.compose i c

/-- `OperatorCircuitEvaluator.evaluate_circuits` -/
def EstimatorEval.evaluate {Circ Obs Par} (e : EstimatorEval Circ Obs) (P : Prim (Circ × Obs × Par) Rat)
    (circuits : List Circ) (params : List Par) : List Rat :=
  P (((circuits.map e.prep).zip params).map (fun cp => (cp.1, e.op, cp.2)))

/-- `TranspilingEstimatorV2.run` on one pub: transpile the circuit, map the observable to the layout of the transpiled
circuit -/
def transpileEstimatorPub {Circ Obs Par} (pm : Circ → Circ) (relayout : Circ → Obs → Obs) (p : Circ × Obs × Par) :
    Circ × Obs × Par :=
  (pm p.1, relayout (pm p.1) p.2.1, p.2.2)

/-- `TranspilingSamplerV2.run` on one pub -/
def transpileSamplerPub {Circ Par} (pm : Circ → Circ) (p : Circ × Par) : Circ × Par := (pm p.1, p.2)

/-! ## Layouts and Pauli observables on basis states -/

inductive Pauli where
  | I | X | Y | Z
  deriving DecidableEq, Repr, Inhabited

/-- ⟨b| P |b⟩ for one qubit -/
def factor (p : Pauli) (b : Bool) : Rat :=
  match p with
  | .I => 1
  | .Z => if b then -1 else 1
  | _ => 0

/-- ⟨b| P₀ ⊗ P₁ ⊗ … |b⟩ -/
def stringVal : List Pauli → Bits → Rat
  | p :: ps, b :: bs => factor p b * stringVal ps bs
  | _, _ => 1

/-- `SparsePauliOp`: coefficient and Pauli string per term -/
abbrev PauliOp := List (Rat × List Pauli)

def opVal (o : PauliOp) (b : Bits) : Rat := (o.map (fun t => t.1 * stringVal t.2 b)).sum

/-- write the entries of `xs` to the positions `pos` of `acc` -/
def scatter {α} : List α → List Nat → List α → List α
  | x :: xs, k :: ks, acc => scatter xs ks (acc.set k x)
  | _, _, acc => acc

/-- `Pauli.apply_layout(layout, m)`: virtual position `i` goes to physical position `layout[i]`, identity elsewhere -/
def applyLayout (ps : List Pauli) (layout : List Nat) (m : Nat) : List Pauli := scatter ps layout (List.replicate m .I)

def opApplyLayout (o : PauliOp) (layout : List Nat) (m : Nat) : PauliOp := o.map (fun t => (t.1, applyLayout t.2 layout m))

/-- the basis state a semantics-preserving transpilation leaves on the physical qubits: virtual qubit `i` ends on
physical qubit `final[i]`, ancillas stay `0` -/
def place (b : Bits) (final : List Nat) (m : Nat) : Bits := scatter b final (List.replicate m false)

/-- a mixture of basis states (what a diagonal observable sees of any state) -/
abbrev Mixture := List (Rat × Bits)

def mixVal (o : PauliOp) (μ : Mixture) : Rat := (μ.map (fun e => e.1 * opVal o e.2)).sum

def mixPlace (μ : Mixture) (final : List Nat) (m : Nat) : Mixture := μ.map (fun e => (e.1, place e.2 final m))

/-- a well-formed final index layout of `n` virtual qubits on `m` physical ones -/
structure LayoutOk (final : List Nat) (n m : Nat) : Prop where
  len : final.length = n
  lt : ∀ k ∈ final, k < m
  nodup : final.Nodup

end QVerif.Pipeline

/-! ## Pure states (superpositions) with Gaussian-rational amplitudes

The classical fragment above sees a state only through its measurement statistics.  For the estimator path with
non-diagonal observables the whole state matters: a state is a finite list of (basis state, amplitude) pairs —
amplitudes of equal basis states add up; no normalisation is assumed — and `expval` is ⟨ψ| P |ψ⟩. -/

namespace QVerif.Pipeline

/-- `re + im·i` -/
structure GRat where
  re : Rat
  im : Rat
  deriving DecidableEq, Repr, Inhabited

namespace GRat
def zero : GRat := ⟨0, 0⟩
def add (a b : GRat) : GRat := ⟨a.re + b.re, a.im + b.im⟩
def mul (a b : GRat) : GRat := ⟨a.re * b.re - a.im * b.im, a.re * b.im + a.im * b.re⟩
def conj (a : GRat) : GRat := ⟨a.re, -a.im⟩
def smul (c : Rat) (a : GRat) : GRat := ⟨c * a.re, c * a.im⟩
/-- `i^k` -/
def ipow (k : Nat) : GRat :=
  match k % 4 with
  | 0 => ⟨1, 0⟩
  | 1 => ⟨0, 1⟩
  | 2 => ⟨-1, 0⟩
  | _ => ⟨0, -1⟩
def sum (l : List GRat) : GRat := l.foldr add zero
end GRat

abbrev State := List (Bits × GRat)

/-- the amplitude of a basis state -/
def amp (ψ : State) (b : Bits) : GRat := GRat.sum ((ψ.filter (fun e => e.1 = b)).map (·.2))

/-- one-qubit Pauli on a basis state: `P|b⟩ = i^k |b'⟩`, returned as `(k, b')` -/
def act1 (p : Pauli) (b : Bool) : Nat × Bool :=
  match p, b with
  | .I, b => (0, b)
  | .X, b => (0, !b)
  | .Y, false => (1, true)
  | .Y, true => (3, false)
  | .Z, false => (0, false)
  | .Z, true => (2, true)

/-- exponent of `i` picked up by a Pauli string on a basis state -/
def phase : List Pauli → Bits → Nat
  | p :: ps, b :: bs => (act1 p b).1 + phase ps bs
  | _, _ => 0

/-- the basis state a Pauli string maps a basis state to (positions without a Pauli are left alone) -/
def flip : List Pauli → Bits → Bits
  | p :: ps, b :: bs => (act1 p b).2 :: flip ps bs
  | _, bs => bs

/-- ⟨ψ| P |ψ⟩ = Σ_b ψ(b) · i^{phase P b} · conj ψ(P·b) -/
def expval (ps : List Pauli) (ψ : State) : GRat :=
  GRat.sum (ψ.map (fun e => GRat.mul (GRat.mul (GRat.conj (amp ψ (flip ps e.1))) e.2) (GRat.ipow (phase ps e.1))))

/-- ⟨ψ| O |ψ⟩ for a `SparsePauliOp` -/
def opExpval (o : PauliOp) (ψ : State) : GRat := GRat.sum (o.map (fun t => GRat.smul t.1 (expval t.2 ψ)))

/-- the state a semantics-preserving transpilation prepares on the physical qubits -/
def statePlace (ψ : State) (final : List Nat) (m : Nat) : State := ψ.map (fun e => (place e.1 final m, e.2))

end QVerif.Pipeline
