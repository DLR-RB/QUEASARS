/-! Model of BatchingMutexPrimitiveJobRunner.run (post-fix protocol), see DESIGN Appendix A.
    "Notified" is represented by absence from the waiter list, so every step only changes the
    acting thread's local state and global fields. -/
namespace Runner

inductive Loc
  | idle | a0 | a1 | a2 | a3 | a4 | a7 | a8 | a9 | b0 | b1 | b2 | b3 | b4 | c0 | c1 | c2
  | d0 | d1 | d2 | g0 | g1 | g2 | g3 | g4 | g5 | g6 | g7 | r
  deriving DecidableEq, Repr, Hashable, BEq, Inhabited

inductive Outcome
  | ok (rs : List Nat)
  | exc (e : Nat)
  deriving DecidableEq, Repr, Hashable, BEq, Inhabited

structure TS where
  loc : Loc := .idle
  pubs : List Nat := []
  idx : Nat := 0
  exec : Bool := false
  loc_res : Option Outcome := none          -- local copy taken at D0
  todo : List (List Nat) := []               -- remaining calls (closed system for exploration)
  outs : List (Outcome × Nat) := []          -- finished calls: (outcome, idx)
  deriving DecidableEq, Repr, Hashable, BEq, Inhabited

structure St where
  E : Option Nat := none
  V : Option Nat := none
  icw : List Nat := []
  ecw : List Nat := []
  tc : Nat := 0
  ec : Nat := 0
  blen : Nat := 0
  g : Nat := 0                               -- ghost: members of the current batch that have gathered
  batch : List Nat := []
  result : Option (List Nat) := none
  exn : Option Nat := none
  flog : List (List Nat × Outcome) := []
  th : List TS := []
  deriving DecidableEq, Repr, Hashable, BEq, Inhabited

inductive Act
  | step (t : Nat)              -- the thread's next synchronisation operation
  | timeout (t : Nat)           -- a timed wait returns without notification
  | fret (t : Nat) (fail : Bool) -- f(batch).result() returns / raises
  deriving DecidableEq, Repr, Hashable, BEq

def St.get (s : St) (t : Nat) : TS := s.th.getD t {}
def St.set (s : St) (t : Nat) (x : TS) : St := { s with th := s.th.set t x }
def St.at (s : St) (t : Nat) (l : Loc) : St := s.set t { s.get t with loc := l }

def gather (s : St) : Outcome :=
  match s.result, s.exn with
  | some rs, _ => .ok rs
  | none, some e => .exc e
  | none, none => .exc 999     -- "Result was not yet ready to retrieve!"

def step (s : St) : Act → Option St
  | .step t =>
    if t ≥ s.th.length then none else
    let x := s.get t
    match x.loc with
    | .idle => if x.todo = [] then none else
        some (s.set t { x with loc := .a0, pubs := x.todo.headD [], todo := x.todo.tail, exec := false, loc_res := none, idx := 0 })
    | .a0 => if s.E = none then some ({ s with E := some t }.at t .a1) else none
    | .a1 => if s.V = none then
               some ({ s with V := some t, batch := s.batch ++ x.pubs, blen := s.blen + x.pubs.length, tc := s.tc + 1 }.set t
                      { x with loc := .a2, idx := s.blen })
             else some (s.at t .a7)
    | .a2 => some ({ s with E := none }.at t .a3)
    | .a3 => some ({ s with V := none }.at t .a4)
    | .a4 => some ({ s with ecw := [] }.at t .b0)
    | .a7 => some ({ s with E := none }.at t .a8)
    | .a8 => some ({ s with ecw := s.ecw ++ [t] }.at t .a9)
    | .a9 => if t ∈ s.ecw then none else some (s.at t .a0)
    | .b0 => some (s.at t .b1)
    | .b1 => if s.V = none then
               if s.ec + 1 = s.tc then some ({ s with V := some t, ec := s.ec + 1 }.set t { x with loc := .b2, exec := true })
               else some ({ s with V := some t, ec := s.ec + 1 }.set t { x with loc := .c0, exec := false })
             else none
    | .b2 => if s.E = none then some ({ s with E := some t }.at t .b3) else none
    | .b3 => none   -- needs Act.fret
    | .b4 => some ({ s with V := none }.at t .d0)
    | .c0 => some ({ s with V := none }.at t .c1)
    | .c1 => some ({ s with icw := s.icw ++ [t] }.at t .c2)
    | .c2 => if t ∈ s.icw then none else some (s.at t .d0)
    | .d0 => if s.V = none then
               some ({ s with V := some t, tc := s.tc - 1, g := s.g + 1 }.set t { x with loc := .d1, loc_res := some (gather s) })
             else none
    | .d1 => some ({ s with icw := s.icw.tail }.at t .d2)
    | .d2 => if x.exec then some ({ s with V := none }.at t .g0) else some ({ s with V := none }.at t .r)
    | .g0 => if s.tc > 0 then some (s.at t .g1) else some (s.at t .g4)
    | .g1 => some ({ s with icw := s.icw ++ [t] }.at t .g2)
    | .g2 => if t ∈ s.icw then none else some (s.at t .g3)
    | .g3 => some ({ s with icw := s.icw.tail }.at t .g0)
    | .g4 => if s.V = none then
               some ({ s with V := some t, result := none, exn := none, batch := [], blen := 0, tc := 0, ec := 0, g := 0 }.at t .g5)
             else none
    | .g5 => some ({ s with V := none }.at t .g6)
    | .g6 => some ({ s with E := none }.at t .g7)
    | .g7 => some ({ s with ecw := [] }.at t .r)
    | .r  => if x.loc_res.isSome then
               some (s.set t { x with loc := .idle, outs := x.outs ++ [(x.loc_res.getD (.exc 0), x.idx)] })
             else none
  | .timeout t =>
    if t ≥ s.th.length then none else
    let x := s.get t
    match x.loc with
    | .a9 => if t ∈ s.ecw then some ({ s with ecw := s.ecw.erase t }.at t .a0) else none
    | .g2 => if t ∈ s.icw then some ({ s with icw := s.icw.erase t }.at t .g3) else none
    | _ => none
  | .fret t fail =>
    if t ≥ s.th.length then none else
    let x := s.get t
    match x.loc with
    | .b3 =>
      if fail then
        some ({ s with result := none, exn := some s.flog.length, flog := s.flog ++ [(s.batch, Outcome.exc s.flog.length)] }.at t .b4)
      else
        some ({ s with result := some s.batch, exn := none, flog := s.flog ++ [(s.batch, Outcome.ok s.batch)] }.at t .b4)
    | _ => none

/-- run a list of actions (used by the drivers and the non-vacuity examples) -/
def runActs (s : St) : List Act → Option St
  | [] => some s
  | a :: t => (step s a).bind (fun s' => runActs s' t)

end Runner
