import QVerif.Model.Encoder

/-!
# The problem Hamiltonian as an operator: a polynomial in the Pauli-Z operators

`Model/Encoder.lean` describes the Hamiltonian through its eigenvalue on a basis state.  The code, however, builds an
*operator*: sums, scalar multiples and products (`compose`) of `pauli_identity_string` and `pauli_z_string`
(`utility/pauli_strings.py`, `utility/domain_wall_variables.py`, `domain_wall_hamiltonian_encoder.py`).  This file mirrors
those constructions term by term on a symbolic representation — a list of (coefficient, list of the qubits carrying a `Z`)
— exactly the data of a `SparsePauliOp` made of `I`/`Z` strings before `simplify()` (a qubit occurring twice in a product
stands for `Z·Z = I`).  `Lemmas/EncoderPoly.lean` proves that its value on every basis state is the eigenvalue function of
`Model/Encoder.lean`, `Lemmas/EncoderSupp.lean` that it only mentions qubits below the reported qubit count.
-/

namespace QVerif.Encoder

/-- a product of `Z` operators: the qubits it acts on (with repetitions) -/
abbrev Mono := List Nat
/-- a `SparsePauliOp` of `I`/`Z` strings: coefficient and `Z` positions of every term -/
abbrev Poly := List (Rat × Mono)

/-- eigenvalue of `Z` on qubit `q` -/
def zval (bits : Bits) (q : Nat) : Rat := if bits.getD q false then -1 else 1

def evalMono (bits : Bits) : Mono → Rat
  | [] => 1
  | q :: m => zval bits q * evalMono bits m

/-- eigenvalue of the operator on a basis state -/
def evalPoly (bits : Bits) : Poly → Rat
  | [] => 0
  | t :: p => t.1 * evalMono bits t.2 + evalPoly bits p

/-- `c * pauli_identity_string(n)` -/
def pconst (c : Rat) : Poly := [(c, [])]
/-- `pauli_z_string(q, n)` -/
def pz (q : Nat) : Poly := [(1, [q])]
def padd (p q : Poly) : Poly := p ++ q
def pscale (c : Rat) (p : Poly) : Poly := p.map (fun t => (c * t.1, t.2))
/-- `p.compose(q)` / `p @ q` on `I`/`Z` strings: term-wise products -/
def pmul (p q : Poly) : Poly := p.flatMap (fun a => q.map (fun b => (a.1 * b.1, a.2 ++ b.2)))
/-- `SparsePauliOp.sum(ops)` -/
def psum (ps : List Poly) : Poly := ps.flatten

/-! ### canonical form (`SparsePauliOp.simplify` with zero tolerance): `Z·Z = I`, equal strings merged, zero terms dropped -/

/-- cancel adjacent equal qubits of a sorted product -/
def cancelPairs : Mono → Mono
  | a :: b :: t => if a = b then cancelPairs t else a :: cancelPairs (b :: t)
  | l => l

def normMono (m : Mono) : Mono := cancelPairs (m.mergeSort (fun a b => decide (a ≤ b)))

/-- add a term to a table keyed by the `Z` positions -/
def addTerm : Poly → Rat × Mono → Poly
  | [], t => [t]
  | (c', m') :: rest, t => if m' = t.2 then (c' + t.1, m') :: rest else (c', m') :: addTerm rest t

def normalize (p : Poly) : Poly :=
  (p.foldl (fun acc t => addTerm acc (t.1, normMono t.2)) []).filter (fun t => decide (t.1 ≠ 0))

/-- `_z_dash_term` (index shifted by one as in `zd`) -/
def zdP (v : Var) (k : Nat) : Poly :=
  if k = 0 then pconst (-1)
  else if k = v.nq + 1 then pconst 1
  else pz (v.qstart + k - 1)

/-- `value_term` -/
def valueTermP (v : Var) (idx : Nat) : Poly :=
  if v.nq = 0 then pconst 1 else pscale (1 / 2) (padd (zdP v (idx + 1)) (pscale (-1) (zdP v idx)))

/-- `viability_term` -/
def viabilityP (v : Var) : Poly :=
  if v.nq = 0 then pscale 0 (pconst 1)
  else psum ((List.range (v.nq + 1)).map (fun k =>
          pscale (1 / 2) (padd (pconst 1) (pscale (-1) (pmul (zdP v k) (zdP v (k + 1)))))) ++ [pconst (-1)])

/-- `_operation_precedence_term` / `_operation_overlap_term`: sum over the penalised value pairs -/
def pairTermP (t : PairTerm) : Poly :=
  psum (t.pairs.map (fun (s1, s2) => pmul (valueTermP t.a.var (s1 - t.a.var.lo)) (valueTermP t.b.var (s2 - t.b.var.lo))))

/-- `_makespan_optimization_term` -/
def makespanTermP (ovs : List (List OpVar)) (limit : Nat) : Poly :=
  let n : Nat := ovs.length
  let maxOpt : Rat := ((n * (n + 1) ^ limit : Nat) : Rat)
  psum (ovs.map (fun row =>
    match row.getLast? with
    | none => []
    | some x => psum ((values x.var).map (fun s =>
        pscale ((1 / maxOpt) * (((n + 1) ^ (s + x.op.dur) : Nat) : Rat)) (valueTermP x.var (s - x.var.lo))))))

/-- `_early_start_term` -/
def earlyStartTermP (ovs : List (List OpVar)) : Poly :=
  let flat := ovs.flatten
  let z : Rat := (((flat.map (fun x => x.var.nvals - 1)).sum : Nat) : Rat)
  psum (flat.map (fun x => psum ((List.range x.var.nvals).map (fun (i : Nat) =>
    if i = 0 then [] else pscale ((1 / z) * ((i : Nat) : Rat)) (valueTermP x.var i)))))

/-- `_prepare_hamiltonian`: the weighted sum of the five parts -/
def energyPolyOf (pen : Penalties) (inst : EInst) (vars : List (List Var)) (limit : Nat) : Poly :=
  let ovs := opVars inst vars
  let pt := precTerms ovs
  let ot := ovlTerms ovs
  let all := pt ++ ot
  padd (padd (padd (padd
    (pscale pen.prec (psum (pt.map pairTermP)))
    (pscale pen.ovl (psum (ot.map pairTermP))))
    (pscale pen.enc (psum (ovs.flatten.map (fun x => pscale ((maxCount all x + 1 : Nat) : Rat) (viabilityP x.var))))))
    (pscale (pen.opt * (1 - pen.share)) (makespanTermP ovs limit)))
    (pscale (pen.opt * pen.share) (earlyStartTermP ovs))

/-- `get_problem_hamiltonian` as an operator -/
def energyPoly (pen : Penalties) (inst : EInst) (limit : Nat) : Except Err Poly :=
  match prepare inst limit with
  | .error e => .error e
  | .ok vars =>
    if nQubits vars = 0 then .error .noQubits
    else .ok (energyPolyOf pen inst vars limit)

end QVerif.Encoder
