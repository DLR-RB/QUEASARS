import QVerif.Model.Genome

/-!
# Model of the EVQE operators: `speciation.py`, `selection.py`, `mutation.py`, `population.py`

Individuals are `Genome.Indiv`; Python's `__eq__`/dict keys use the hash of the same fields, whose collisions `pyEq`
(below) models.  Dicts are insertion-ordered association lists.  Every random draw, every evaluator result
and every optimiser result is an oracle input, so the theorems hold for every seed, evaluator, optimiser and worker
completion order (results are collected positionally by the code, which the model mirrors).
-/

namespace QVerif.Evqe
open QVerif.Genome

structure Pop where
  inds : List Indiv
  reps : Option (List Indiv)
  members : Option (List (Indiv × List Nat))
  membership : Option (List (Nat × Indiv))
  deriving Repr, DecidableEq

inductive Event where
  | count (n : Nat)
  | result (pop : Pop) (values : List Rat) (best : Nat)
  deriving Repr

inductive OpErr where
  | selectionWithoutSpeciation
  | genome (e : Genome.Err)
  | oracleExhausted
  deriving Repr, DecidableEq

/-! ## Equality of individuals as Python sees it

`EVQEIndividual.__eq__` is *hash* equality and `__hash__` hashes `(n_qubits, layers, parameter_values)`; the
dataclass hash of a gate hashes its field tuple only, not its class.  So two individuals compare equal (and are the
same `dict` key) iff their field tuples agree when the gate classes are ignored — e.g. a layer and its mirror image
(`ControlledRotationGate(0, 1), ControlGate(1, 0)` vs `ControlGate(0, 1), ControlledRotationGate(1, 0)`) collide, and so do
individuals whose parameter values differ only by hash-equal floats (`valHash`).
Assumed: Python's tuple hashing is injective on the (class-free, value-hashed) keys that occur in a run. -/

def gateKey : Gate → List Nat
  | .id q | .rot q => [q]
  | .ctrl q c | .crot q c => [q, c]

/-- hash class of a parameter value: the harness numbers the floats of a run such that `token / 1024` coincides for two
floats exactly when CPython hashes them alike (`hash(-1.0) == hash(-2.0)`, `x` vs `x + k·(2^61 − 1)`), so value collisions are
part of the model, too -/
def valHash (v : Val) : Val := v / 1024

def indivKey (x : Indiv) : Nat × List (Nat × List (List Nat)) × List Val :=
  (x.nQubits, x.layers.map (fun l => (l.nQubits, l.gates.map gateKey)), x.values.map valHash)

/-- `individual == other` / same dict key -/
def pyEq (a b : Indiv) : Bool := indivKey a == indivKey b

/-! ## Speciation -/

/-- `species_members[representative].append(i)` -/
def appendMember (ms : List (Indiv × List Nat)) (rep : Indiv) (i : Nat) : List (Indiv × List Nat) :=
  ms.map (fun (r, l) => if pyEq r rep then (r, l ++ [i]) else (r, l))

/-- dict item assignment `d[k] = v` (overwrite the value of an equal key in place, or append) -/
def dictSet {ν} (d : List (Indiv × ν)) (k : Indiv) (v : ν) : List (Indiv × ν) :=
  if d.any (fun p => pyEq p.1 k) then d.map (fun p => if pyEq p.1 k then (p.1, v) else p) else d ++ [(k, v)]

/-- phase 1: assign every individual to the first representative that is close enough (or equal), else found a
new species -/
def assign (thr : Int) : List (Indiv × Nat) → List Indiv → List (Indiv × List Nat) → List Indiv × List (Indiv × List Nat)
  | [], reps, ms => (reps, ms)
  | (x, i) :: rest, reps, ms =>
    match reps.find? (fun r => decide (geneticDistance x r < thr) || pyEq x r) with
    | some r => assign thr rest reps (appendMember ms r i)
    | none => assign thr rest (reps ++ [x]) (dictSet ms x [i])

/-- phase 2: draw a new representative for every non-empty species (`choice(members)` from the oracle) and merge
species whose new representatives coincide -/
def redraw (inds : List Indiv) : List (List Nat) → List Nat → List (Indiv × List Nat) → Except OpErr (List (Indiv × List Nat) × List Nat)
  | [], ch, acc => .ok (acc, ch)
  | ms :: rest, ch, acc =>
    if ms.length ≤ 0 then redraw inds rest ch acc
    else
      match ch with
      | [] => .error .oracleExhausted
      | c :: ch' =>
        let rep := inds.getD c default
        match acc.find? (fun p => pyEq p.1 rep) with
        | none => redraw inds rest ch' (acc ++ [(rep, ms)])
        | some _ => redraw inds rest ch' (acc.map (fun p => if pyEq p.1 rep then (p.1, p.2 ++ ms) else p))

/-- `species_representatives` of the input (`[]` if there is no species information) -/
def reps0Of (pop : Pop) : List Indiv := match pop.reps with | none => [] | some r => r

/-- `{representative: [] for representative in species_representatives}` (duplicate keys collapse) -/
def initDict (reps0 : List Indiv) : List (Indiv × List Nat) := reps0.foldl (fun d r => dictSet d r []) []

/-- the member lists after phase 1 -/
def phase1 (thr : Int) (pop : Pop) : List (Indiv × List Nat) :=
  (assign thr pop.inds.zipIdx (reps0Of pop) (initDict (reps0Of pop))).2

/-- `EVQESpeciation.apply_operator` -/
def speciate (thr : Int) (choices : List Nat) (pop : Pop) : Except OpErr (Pop × List Nat) :=
  match redraw pop.inds ((phase1 thr pop).map Prod.snd) choices [] with
  | .error e => .error e
  | .ok (newMs, ch) =>
    .ok ({ inds := pop.inds, reps := some (newMs.map Prod.fst), members := some newMs,
           membership := some (newMs.flatMap (fun (r, l) => l.map (fun m => (m, r)))) }, ch)

/-! ## Selection -/

/-- `numpy.argmin`: index of the first minimum -/
def argminFrom : List Rat → Nat → Nat → Rat → Nat
  | [], _, bi, _ => bi
  | v :: t, i, bi, bv => if v < bv then argminFrom t (i + 1) i v else argminFrom t (i + 1) bi bv

def argmin (l : List Rat) : Nat :=
  match l with
  | [] => 0
  | v :: t => argminFrom t 1 0 v

/-- the tournament loop body: first strictly smallest fitness among the drawn indices -/
def tournamentWinner (fitness : List Rat) : List Nat → Option (Nat × Rat) → Option Nat
  | [], best => best.map Prod.fst
  | i :: rest, best =>
    let f := fitness.getD i 0
    match best with
    | none => tournamentWinner fitness rest (some (i, f))
    | some (_, bf) => if f < bf then tournamentWinner fitness rest (some (i, f)) else tournamentWinner fitness rest best

def speciesSize (pop : Pop) (i : Nat) : Nat :=
  match pop.membership, pop.members with
  | some mship, some ms =>
    (match mship.lookup i with
     | some rep => (match ms.find? (fun p => pyEq p.1 rep) with | some p => p.2.length | none => 0)
     | none => 0)
  | _, _ => 0

inductive SelMode where
  | roulette (selected : List Nat)                  -- indices of `choices(individuals, weights, k=n)` (oracle)
  | tournament (draws : List (List Nat))            -- successive `choices(range(n), k=size)` (oracle)
  deriving Repr

/-- `EVQESelection.apply_operator`; `evals[i]` is the evaluator's value for individual `i` -/
def select (alpha beta : Rat) (mode : SelMode) (evals : List Rat) (pop : Pop) : Except OpErr Pop × List Event :=
  let n := pop.inds.length
  let ev1 := [Event.count n]
  if pop.reps.isNone || pop.members.isNone || pop.membership.isNone then (.error .selectionWithoutSpeciation, ev1)
  else
    let best := argmin evals
    let ev2 := ev1 ++ [Event.result pop evals best]
    let selected : List Indiv :=
      match mode with
      | .roulette sel => sel.map (fun i => pop.inds.getD i default)
      | .tournament draws =>
        let fitness := (pop.inds.zipIdx.map (fun (x, i) =>
          (evals.getD i 0 + alpha * (x.layers.length : Rat) + beta * (((x.layers.map Layer.nControlled).sum : Nat) : Rat)) *
            ((speciesSize pop i : Nat) : Rat)))
        (draws.take n).filterMap (fun d => (tournamentWinner fitness d none).map (fun i => pop.inds.getD i default))
    (.ok { inds := selected, reps := pop.reps, members := none, membership := none }, ev2)

/-! ## Mutation -/

/-- what the mutation function did to one individual (oracle-supplied optimiser / RNG outcomes) -/
inductive MutStep where
  | optimizeLayers (steps : List (Int × List Val × Nat))   -- successive `optimize_layer_of_individual(layer, x*, nfev)`
  | addLayer (o : Oracle)                                   -- `add_random_layers(ind, 1, False, seed)`
  | removeLayers (k : Nat)                                  -- `randrange(1, len(layers))`
  deriving Repr

/-- `optimize_layer_of_individual`: a layer without parameters is left alone with 0 evaluations -/
def optimizeLayer (x : Indiv) (layerId : Int) (vals : List Val) (nfev : Nat) : Except Genome.Err (Indiv × Nat) :=
  let i := normIdx layerId x.layers.length
  if (x.layers.getD i default).nParams = 0 then .ok (x, 0)
  else
    match changeLayerParameterValues x layerId vals with
    | .error e => .error e
    | .ok y => .ok (y, nfev)

def applyMutStep (x : Indiv) : MutStep → Except Genome.Err (Indiv × Nat)
  | .optimizeLayers steps =>
    steps.foldl (fun acc (l, vals, nfev) =>
      match acc with
      | .error e => .error e
      | .ok (y, n) =>
        match optimizeLayer y l vals nfev with
        | .error e => .error e
        | .ok (z, m) => .ok (z, n + m)) (.ok (x, 0))
  | .addLayer o =>
    match addRandomLayers x 1 o (fun n => List.replicate n 0) with
    | .error e => .error e
    | .ok y => .ok (y, 0)
  | .removeLayers k =>
    if x.layers.length = 1 then .ok (x, 0)
    else match removeLayers x k with
      | .error e => .error e
      | .ok y => .ok (y, 0)

/-- `BaseEVQEMutationOperator.apply_operator`: `plan[i] = none` if the coin said "do not mutate" -/
def mutateFrom : List Indiv → List (Option MutStep) → Except OpErr (List Indiv × Nat)
  | [], _ => .ok ([], 0)
  | x :: rest, [] => match mutateFrom rest [] with
    | .error e => .error e
    | .ok (l, n) => .ok (x :: l, n)
  | x :: rest, none :: plan => match mutateFrom rest plan with
    | .error e => .error e
    | .ok (l, n) => .ok (x :: l, n)
  | x :: rest, some st :: plan =>
    match applyMutStep x st with
    | .error e => .error (.genome e)
    | .ok (y, m) => match mutateFrom rest plan with
      | .error e => .error e
      | .ok (l, n) => .ok (y :: l, m + n)

def mutate (plan : List (Option MutStep)) (pop : Pop) : Except OpErr Pop × List Event :=
  match mutateFrom pop.inds plan with
  | .error e => (.error e, [])
  | .ok (l, n) => (.ok { inds := l, reps := pop.reps, members := none, membership := none }, [Event.count n])

end QVerif.Evqe
