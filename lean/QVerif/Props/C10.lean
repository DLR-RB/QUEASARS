import QVerif.Model.Evqe
import QVerif.Lemmas.Genome
import QVerif.Lemmas.Lists

/-!
# C10 — evolutionary operators preserve population invariants
-/

namespace QVerif.Evqe
open QVerif.Genome

def flatIdx (ms : List (Indiv × List Nat)) : List Nat := ms.flatMap Prod.snd

/-- keys of a dict are pairwise different for Python (`pyEq`) -/
def KeysDistinct (ms : List (Indiv × List Nat)) : Prop := ms.Pairwise (fun a b => pyEq a.1 b.1 = false)

theorem pyEq_refl (a : Indiv) : pyEq a a = true := by simp [pyEq]
theorem pyEq_comm (a b : Indiv) : pyEq a b = pyEq b a := by simp only [pyEq, Bool.beq_comm]
theorem pyEq_congr {a b : Indiv} (h : pyEq a b = true) (c : Indiv) : pyEq a c = pyEq b c := by
  simp only [pyEq, beq_iff_eq] at h ⊢; rw [h]

/-- change the values stored under the keys equal to `k` (for a dict with distinct keys: under the one such key) -/
def dictModify {ν} (d : List (Indiv × ν)) (k : Indiv) (f : ν → ν) : List (Indiv × ν) :=
  d.map (fun p => if pyEq p.1 k then (p.1, f p.2) else p)

theorem appendMember_eq (ms : List (Indiv × List Nat)) (rep : Indiv) (i : Nat) :
    appendMember ms rep i = dictModify ms rep (· ++ [i]) := rfl

theorem dictSet_eq {ν} (d : List (Indiv × ν)) (k : Indiv) (v : ν) :
    dictSet d k v = if d.any (fun p => pyEq p.1 k) then dictModify d k (fun _ => v) else d ++ [(k, v)] := rfl

theorem keys_dictModify {ν} (d : List (Indiv × ν)) (k : Indiv) (f : ν → ν) :
    (dictModify d k f).map Prod.fst = d.map Prod.fst := by
  simp only [dictModify, List.map_map]
  exact List.map_congr_left fun p _ => by simp only [Function.comp]; split <;> rfl

theorem dictModify_eq_self {ν} {d : List (Indiv × ν)} {k : Indiv} (f : ν → ν) (h : ∀ p ∈ d, pyEq p.1 k = false) :
    dictModify d k f = d :=
  (List.map_congr_left fun p hp => by simp [h p hp]).trans (List.map_id _)

theorem keysDistinct_iff {ms : List (Indiv × List Nat)} :
    KeysDistinct ms ↔ (ms.map Prod.fst).Pairwise (fun a b => pyEq a b = false) := by
  rw [KeysDistinct, List.pairwise_map]

theorem keysDistinct_dictModify {d : List (Indiv × List Nat)} (h : KeysDistinct d) (k : Indiv) (f : List Nat → List Nat) :
    KeysDistinct (dictModify d k f) := by
  rw [keysDistinct_iff, keys_dictModify]; exact keysDistinct_iff.mp h

theorem flatIdx_snoc (ms : List (Indiv × List Nat)) (k : Indiv) (v : List Nat) : flatIdx (ms ++ [(k, v)]) = flatIdx ms ++ v := by
  simp [flatIdx]

theorem flatIdx_dictModify (d : List (Indiv × List Nat)) (k : Indiv) (ms : List Nat) (hk : KeysDistinct d)
    (hex : d.any (fun p => pyEq p.1 k) = true) : (flatIdx (dictModify d k (· ++ ms))).Perm (flatIdx d ++ ms) := by
  induction d with
  | nil => cases hex
  | cons a t ih =>
    obtain ⟨hat, ht⟩ := List.pairwise_cons.mp hk
    show (flatIdx ((if pyEq a.1 k then (a.1, a.2 ++ ms) else a) :: dictModify t k (· ++ ms))).Perm _
    cases h : pyEq a.1 k with
    | true =>
      -- no later key matches
      rw [dictModify_eq_self _ fun x hx => by rw [pyEq_comm, ← pyEq_congr h, hat x hx]]
      simp only [↓reduceIte, flatIdx, List.flatMap_cons, List.append_assoc]
      exact List.Perm.append_left _ List.perm_append_comm
    | false =>
      rw [List.any_cons, h, Bool.false_or] at hex
      simp only [Bool.false_eq_true, ↓reduceIte, flatIdx, List.flatMap_cons, List.append_assoc]
      exact List.Perm.append_left _ (ih ht hex)

/-- invariant of phase 1 (`assign`), on the representatives and the keys of the member dict; `cover`: an individual is
Python-equal to some key exactly when it is to some representative -/
structure P1 (reps keys : List Indiv) : Prop where
  distinct : keys.Pairwise (fun a b => pyEq a b = false)
  cover : ∀ x, keys.any (pyEq · x) = reps.any (pyEq · x)

theorem any_key {ν} (d : List (Indiv × ν)) (k : Indiv) : d.any (fun p => pyEq p.1 k) = (d.map Prod.fst).any (pyEq · k) := by
  rw [List.any_map]; rfl

theorem P1.dictSet {ν} {reps : List Indiv} {d : List (Indiv × ν)} (h : P1 reps (d.map Prod.fst)) (k : Indiv) (v : ν) :
    P1 (reps ++ [k]) ((dictSet d k v).map Prod.fst) := by
  have hreps : ∀ x, (reps ++ [k]).any (pyEq · x) = ((d.map Prod.fst).any (pyEq · x) || pyEq k x) := fun x => by
    rw [List.any_append, h.cover x, List.any_cons, List.any_nil, Bool.or_false]
  rw [dictSet_eq, any_key]
  split
  · rename_i hany
    -- `k` overwrites a key `a` it equals and the keys stay: what equals `k` equals `a`
    obtain ⟨a, ha, hak⟩ := List.any_eq_true.mp hany
    rw [keys_dictModify]
    refine ⟨h.distinct, fun x => ?_⟩
    rw [hreps]
    cases hkx : pyEq k x with
    | false => rw [Bool.or_false]
    | true => rw [Bool.or_true]; exact List.any_eq_true.mpr ⟨a, ha, by rw [pyEq_congr hak, hkx]⟩
  · rename_i hnone
    simp only [List.map_append, List.map_cons, List.map_nil]
    refine ⟨pairwise_snoc h.distinct fun a ha => ?_, fun x => ?_⟩
    · exact Bool.eq_false_iff.mpr fun hak => hnone (List.any_eq_true.mpr ⟨a, ha, hak⟩)
    · rw [hreps, List.any_append, List.any_cons, List.any_nil, Bool.or_false]

theorem assign_perm {thr : Int} {todo : List (Indiv × Nat)} {reps : List Indiv} {ms : List (Indiv × List Nat)}
    (h : P1 reps (ms.map Prod.fst)) : (flatIdx (assign thr todo reps ms).2).Perm (todo.map Prod.snd ++ flatIdx ms) := by
  induction todo generalizing reps ms with
  | nil => exact .refl _
  | cons xi rest ih =>
    obtain ⟨x, i⟩ := xi
    simp only [assign]
    cases hf : reps.find? (fun r => decide (geneticDistance x r < thr) || pyEq x r) with
    | some r =>
      -- `r` has a key, whose member list gets `i`
      have hkey : ms.any (fun p => pyEq p.1 r) = true := by
        rw [any_key, h.cover r]
        exact List.any_eq_true.mpr ⟨r, List.mem_of_find?_eq_some hf, pyEq_refl r⟩
      refine (ih (by rw [appendMember_eq, keys_dictModify]; exact h)).trans ?_
      exact (List.Perm.append_left _ (flatIdx_dictModify ms r [i] (keysDistinct_iff.mpr h.distinct) hkey)).trans
        (by rw [← List.append_assoc]; exact List.perm_append_singleton _ _)
    | none =>
      -- `x` equals no representative, hence no key: the assignment founds a new entry
      have hset : dictSet ms x [i] = ms ++ [(x, [i])] := by
        rw [dictSet_eq, if_neg]
        rw [any_key, h.cover x, List.any_eq_true]; rintro ⟨r, hr, hrx⟩
        have := List.find?_eq_none.mp hf r hr
        rw [pyEq_comm x r, hrx, Bool.or_true] at this
        exact this rfl
      refine (ih (h.dictSet x [i])).trans ?_
      rw [hset, flatIdx_snoc, ← List.append_assoc]
      exact List.perm_append_singleton _ _

theorem flatIdx_dictSet_nil {d : List (Indiv × List Nat)} (r : Indiv) (h : flatIdx d = []) : flatIdx (dictSet d r []) = [] := by
  rw [dictSet_eq]
  split
  · simp only [flatIdx, List.flatMap_eq_nil_iff, dictModify, List.mem_map] at h ⊢
    rintro _ ⟨p, hp, rfl⟩
    split
    · rfl
    · exact h p hp
  · rw [flatIdx_snoc, h]; rfl

/-- `initDict`, stated from any stage on (`done` processed, `todo` to come): it establishes `P1` and holds no index -/
theorem init_dict_spec : ∀ (todo done : List Indiv) (d : List (Indiv × List Nat)), P1 done (d.map Prod.fst) → flatIdx d = [] →
    P1 (done ++ todo) ((todo.foldl (fun d r => dictSet d r []) d).map Prod.fst) ∧
    flatIdx (todo.foldl (fun d r => dictSet d r []) d) = []
  | [], done, d, h, he => by simpa using ⟨h, he⟩
  | r :: rest, done, d, h, he => by
      simpa [List.append_assoc] using init_dict_spec rest (done ++ [r]) (dictSet d r []) (h.dictSet r []) (flatIdx_dictSet_nil r he)

def ChoicesLegit : List (List Nat) → List Nat → Prop
  | [], _ => True
  | ms :: rest, ch =>
    if ms.length ≤ 0 then ChoicesLegit rest ch
    else match ch with
      | [] => True
      | c :: ch' => c ∈ ms ∧ ChoicesLegit rest ch'

/-- the oracle's choices are members of the lists they are drawn from (what `random.choice` guarantees) -/
def LegitFor (thr : Int) (pop : Pop) (choices : List Nat) : Prop :=
  ChoicesLegit ((phase1 thr pop).map Prod.snd) choices

theorem phase1_perm (thr : Int) (pop : Pop) : (flatIdx (phase1 thr pop)).Perm (List.range pop.inds.length) := by
  obtain ⟨hP1, hE⟩ := init_dict_spec (reps0Of pop) [] [] ⟨.nil, fun _ => rfl⟩ rfl
  have := assign_perm (thr := thr) (todo := pop.inds.zipIdx) hP1
  rwa [hE, List.append_nil, List.zipIdx_map_snd, ← List.range_eq_range'] at this

/-- invariant of phase 2 (`redraw`), on the species built so far -/
structure P2 (inds : List Indiv) (acc : List (Indiv × List Nat)) : Prop where
  keys : KeysDistinct acc
  repMember : ∀ p ∈ acc, ∃ j ∈ p.2, inds.getD j default = p.1

theorem redraw_spec {inds : List Indiv} {lists : List (List Nat)} {ch : List Nat} {acc res : List (Indiv × List Nat)} {ch' : List Nat}
    (h : P2 inds acc) (hc : ChoicesLegit lists ch) (hr : redraw inds lists ch acc = .ok (res, ch')) :
    P2 inds res ∧ (flatIdx res).Perm (flatIdx acc ++ lists.flatten) := by
  induction lists generalizing ch acc with
  | nil =>
    simp only [redraw] at hr; cases hr
    exact ⟨h, by simp⟩
  | cons ms rest ih =>
    simp only [redraw] at hr
    simp only [ChoicesLegit] at hc
    split at hr
    · rename_i hempty
      simp only [hempty, ↓reduceIte] at hc
      obtain ⟨g1, g2⟩ := ih h hc hr
      exact ⟨g1, by simpa [List.eq_nil_of_length_eq_zero (Nat.le_zero.mp hempty)] using g2⟩
    · rename_i hne
      simp only [hne, ↓reduceIte] at hc
      cases ch with
      | nil => cases hr
      | cons c chs =>
        simp only at hr hc
        obtain ⟨hcm, hcrest⟩ := hc
        split at hr
        · -- the drawn representative founds a new species
          rename_i hfind
          have hfresh : ∀ p ∈ acc, pyEq p.1 (inds.getD c default) = false := fun p hp => by
            simpa using List.find?_eq_none.mp hfind p hp
          have h' : P2 inds (acc ++ [(inds.getD c default, ms)]) := by
            refine ⟨pairwise_snoc h.keys hfresh, fun p hp => ?_⟩
            rcases List.mem_append.mp hp with hp | hp
            · exact h.repMember p hp
            · exact List.mem_singleton.mp hp ▸ ⟨c, hcm, rfl⟩
          obtain ⟨g1, g2⟩ := ih h' hcrest hr
          exact ⟨g1, g2.trans (by rw [flatIdx_snoc, List.flatten_cons, List.append_assoc])⟩
        · -- it equals the representative of an earlier species: merge (the model's `acc.map …` is `dictModify acc _ (· ++ ms)`)
          rename_i q hfind
          have hkey := List.any_eq_true.mpr ⟨q, List.mem_of_find?_eq_some hfind, List.find?_some hfind⟩
          have h' : P2 inds (dictModify acc (inds.getD c default) (· ++ ms)) := by
            refine ⟨keysDistinct_dictModify h.keys _ _, fun p hp => ?_⟩
            obtain ⟨p0, hp0, rfl⟩ := List.mem_map.mp hp
            obtain ⟨j, hj, hjj⟩ := h.repMember p0 hp0
            split
            · exact ⟨j, List.mem_append_left _ hj, hjj⟩
            · exact ⟨j, hj, hjj⟩
          obtain ⟨g1, g2⟩ := ih h' hcrest hr
          refine ⟨g1, g2.trans ?_⟩
          rw [List.flatten_cons, ← List.append_assoc]
          exact (flatIdx_dictModify acc _ ms h.keys hkey).append_right _

/-- **After speciation the species partition the population**: the individuals are unchanged; every index occurs in
exactly one member list (the member lists together are a permutation of `0 … n−1`); every representative is
`individuals[j]` for some `j` of its own member list; the representative list is the key list of the member map and
the membership map is exactly its inverse; no two species have Python-equal representatives. -/
theorem speciation_partition (thr : Int) (choices : List Nat) (pop p' : Pop) (rest : List Nat)
    (h : speciate thr choices pop = .ok (p', rest)) (hleg : LegitFor thr pop choices) :
    p'.inds = pop.inds ∧ ∃ ms, p'.members = some ms ∧ p'.reps = some (ms.map Prod.fst) ∧
      p'.membership = some (ms.flatMap (fun (r, l) => l.map (fun m => (m, r)))) ∧
      KeysDistinct ms ∧ (flatIdx ms).Perm (List.range pop.inds.length) ∧
      ∀ p ∈ ms, ∃ j ∈ p.2, pop.inds[j]? = some p.1 := by
  unfold speciate at h
  split at h
  · cases h
  · rename_i ms ch hr
    cases h
    obtain ⟨g1, g2⟩ := redraw_spec ⟨.nil, by simp⟩ hleg hr
    have hperm := g2.trans (phase1_perm thr pop)
    refine ⟨rfl, ms, rfl, rfl, rfl, g1.keys, hperm, fun p hp => ?_⟩
    obtain ⟨j, hj, he⟩ := g1.repMember p hp
    -- `j` stands in a member list, so it is an index of the population
    have hlt := List.mem_range.mp (hperm.mem_iff.mp (List.mem_flatMap.mpr ⟨p, hp, hj⟩))
    exact ⟨j, hj, by rw [← he, List.getD_eq_getElem?_getD, List.getElem?_eq_getElem hlt]; rfl⟩

theorem argminFrom_spec : ∀ (l : List Rat) (i bi : Nat) (bv : Rat),
    (argminFrom l i bi bv = bi ∨ (i ≤ argminFrom l i bi bv ∧ argminFrom l i bi bv < i + l.length))
  | [], _, _, _ => Or.inl rfl
  | v :: t, i, bi, bv => by
      simp only [argminFrom, List.length_cons]
      split
      · rcases argminFrom_spec t (i + 1) i v with h1 | h1 <;> omega
      · rcases argminFrom_spec t (i + 1) bi bv with h1 | h1 <;> omega

theorem argmin_lt (l : List Rat) (h : l ≠ []) : argmin l < l.length := by
  cases l with
  | nil => exact absurd rfl h
  | cons v t =>
    simp only [argmin, List.length_cons]
    rcases argminFrom_spec t 1 0 v with h1 | h1 <;> omega

theorem getD_mem_or_default {α} (l : List α) (i : Nat) (d : α) : l.getD i d ∈ l ∨ l.getD i d = d := by
  rw [List.getD_eq_getElem?_getD]
  cases h : l[i]? with
  | none => exact .inr rfl
  | some a => exact .inl (List.mem_of_getElem? h)

/-- **Selection**: reports one evaluation per individual; without species information it raises after that; otherwise
it reports exactly one evaluation result — for the population it was given, with the expectation value at index `i`
being the evaluator's value for individual `i` (results are collected positionally, whatever the completion order)
and the best entry the model's `argmin` of them — and returns only individuals of its input (or `default` for an out-of-range oracle
index), keeping the representatives. -/
theorem selection_spec (alpha beta : Rat) (mode : SelMode) (evals : List Rat) (pop : Pop) :
    ((pop.reps.isNone || pop.members.isNone || pop.membership.isNone) = true →
        (select alpha beta mode evals pop).1 = .error .selectionWithoutSpeciation ∧
        (select alpha beta mode evals pop).2 = [Event.count pop.inds.length]) ∧
    ((pop.reps.isNone || pop.members.isNone || pop.membership.isNone) = false →
        (select alpha beta mode evals pop).2 = [Event.count pop.inds.length, Event.result pop evals (argmin evals)] ∧
        ∃ p', (select alpha beta mode evals pop).1 = .ok p' ∧ p'.reps = pop.reps ∧ p'.members = none ∧ p'.membership = none ∧
          ∀ x ∈ p'.inds, x ∈ pop.inds ∨ x = default) := by
  constructor
  · intro hs
    unfold select
    simp only [hs, ↓reduceIte, and_self]
  · intro hs
    unfold select
    simp only [hs, Bool.false_eq_true, ↓reduceIte, List.cons_append, List.nil_append, true_and]
    refine ⟨_, rfl, rfl, rfl, rfl, fun x hx => ?_⟩
    -- either way the selected individuals are read from the input by index
    cases mode with
    | roulette sel =>
      obtain ⟨i, _, rfl⟩ := List.mem_map.mp hx
      exact getD_mem_or_default ..
    | tournament draws =>
      simp only [List.mem_filterMap, Option.map_eq_some_iff] at hx
      obtain ⟨d, _, i, _, rfl⟩ := hx
      exact getD_mem_or_default ..

/-- roulette selection with `k = n` draws keeps the population size -/
theorem selection_size_roulette (alpha beta : Rat) (sel : List Nat) (evals : List Rat) (pop p' : Pop)
    (hlen : sel.length = pop.inds.length) (h : (select alpha beta (.roulette sel) evals pop).1 = .ok p') :
    p'.inds.length = pop.inds.length := by
  unfold select at h
  simp only at h
  split at h
  · cases h
  · cases h
    rw [List.length_map, hlen]

theorem mutateFrom_cons {x : Indiv} {rest out : List Indiv} {plan : List (Option MutStep)} {n : Nat}
    (h : mutateFrom (x :: rest) plan = .ok (out, n)) :
    ∃ y l n', out = y :: l ∧ mutateFrom rest plan.tail = .ok (l, n') ∧
      (plan.getD 0 none = none → y = x) ∧ (∀ st, plan.getD 0 none = some st → ∃ m, applyMutStep x st = .ok (y, m)) := by
  -- a plan that has run out behaves like one that starts with `none`
  rw [show mutateFrom (x :: rest) plan = mutateFrom (x :: rest) (plan.getD 0 none :: plan.tail) by cases plan <;> rfl] at h
  cases hp : plan.getD 0 none with
  | none =>
    simp only [hp, mutateFrom] at h
    split at h
    · cases h
    · rename_i l n' hrec
      cases h
      exact ⟨x, l, n, rfl, hrec, fun _ => rfl, nofun⟩
  | some st =>
    simp only [hp, mutateFrom] at h
    split at h
    · cases h
    · rename_i y m hy
      split at h
      · cases h
      · rename_i l n' hrec
        cases h
        exact ⟨y, l, n', rfl, hrec, nofun, fun st' hst => by cases hst; exact ⟨m, hy⟩⟩

/-- **mutation keeps the population size and changes each individual only as its step documents** (individuals without a step are
passed on unchanged) -/
theorem mutateFrom_spec : ∀ (inds : List Indiv) (plan : List (Option MutStep)) (out : List Indiv) (n : Nat),
    mutateFrom inds plan = .ok (out, n) →
    out.length = inds.length ∧
    ∀ i (h1 : i < inds.length) (h2 : i < out.length),
      (plan.getD i none = none → out[i] = inds[i]) ∧
      (∀ st, plan.getD i none = some st → ∃ m, applyMutStep inds[i] st = .ok (out[i], m))
  | [], plan, out, n, h => by
      cases h
      exact ⟨rfl, fun i h1 => absurd h1 (Nat.not_lt_zero _)⟩
  | x :: rest, plan, out, n, h => by
      obtain ⟨y, l, n', rfl, hrec, hnone, hsome⟩ := mutateFrom_cons h
      obtain ⟨g1, g2⟩ := mutateFrom_spec rest plan.tail l n' hrec
      refine ⟨by rw [List.length_cons, List.length_cons, g1], fun i h1 h2 => ?_⟩
      cases i with
      | zero => exact ⟨hnone, hsome⟩
      | succ j =>
        rw [show plan.getD (j + 1) none = plan.tail.getD j none by cases plan <;> rfl]
        exact g2 j (Nat.lt_of_succ_lt_succ h1) (Nat.lt_of_succ_lt_succ h2)

theorem mutation_spec (plan : List (Option MutStep)) (pop p' : Pop) (evs : List Event)
    (h : mutate plan pop = (.ok p', evs)) :
    p'.inds.length = pop.inds.length ∧ p'.reps = pop.reps ∧ p'.members = none ∧ p'.membership = none ∧
    ∃ n, evs = [Event.count n] := by
  unfold mutate at h
  split at h
  · cases h
  · rename_i l n hm
    cases h
    exact ⟨(mutateFrom_spec _ _ _ _ hm).1, rfl, rfl, rfl, n, rfl⟩

/-- what a parameter search may change of an individual: nothing of its structure -/
abbrev Keeps (a b : Indiv) : Prop :=
  (a.isValid = true → b.isValid = true) ∧ b.nQubits = a.nQubits ∧ b.layers = a.layers

theorem optimizeLayer_keeps_structure {x y : Indiv} {l : Int} {vals : List Val} {nfev n : Nat}
    (h : optimizeLayer x l vals nfev = .ok (y, n)) : Keeps x y := by
  unfold optimizeLayer at h
  simp only at h
  split at h
  · cases h; exact ⟨id, rfl, rfl⟩
  · split at h
    · cases h
    · rename_i y' hy
      cases h
      obtain ⟨_, rfl, hv⟩ := changeLayerParameterValues_eq_ok.mp hy
      exact ⟨fun _ => hv, rfl, rfl⟩

/-- a fold that passes an error on, read from its successful end: the step before succeeded as well -/
theorem foldl_ok {ε α β} {F : Except ε α → β → Except ε α} (R : α → α → Prop) (hrefl : ∀ a, R a a)
    (htrans : ∀ {a b c}, R a b → R b c → R a c)
    (hF : ∀ acc b a', F acc b = .ok a' → ∃ a, acc = .ok a ∧ R a a')
    {l : List β} {acc : Except ε α} {a' : α} (h : l.foldl F acc = .ok a') : ∃ a, acc = .ok a ∧ R a a' := by
  induction l generalizing acc with
  | nil => exact ⟨a', h, hrefl a'⟩
  | cons b l ih =>
    obtain ⟨a₁, h₁, r₁⟩ := ih h
    obtain ⟨a, h₀, r₀⟩ := hF acc b a₁ h₁
    exact ⟨a, h₀, htrans r₀ r₁⟩

/-- **what each mutation does to one individual**: parameter search keeps the structure; topological search appends
exactly one layer and keeps all layers and values as a prefix; layer removal leaves single-layer individuals
unchanged and otherwise drops a non-empty proper suffix of layers; valid individuals stay valid. -/
theorem applyMutStep_spec (x y : Indiv) (n : Nat) (st : MutStep) (h : applyMutStep x st = .ok (y, n)) :
    (x.isValid = true → y.isValid = true) ∧ y.nQubits = x.nQubits ∧
    (match st with
     | .optimizeLayers _ => y.layers = x.layers
     | .addLayer _ => ∃ l, y.layers = x.layers ++ [l] ∧ ∃ zs, y.values = x.values ++ zs
     | .removeLayers k => (x.layers.length = 1 ∧ y = x) ∨
         (1 ≤ k ∧ k < x.layers.length ∧ y.layers = x.layers.take (x.layers.length - k))) := by
  cases st with
  | optimizeLayers steps =>
    obtain ⟨_, h0, r⟩ := foldl_ok (fun a b : Indiv × Nat => Keeps a.1 b.1) (fun _ => ⟨id, rfl, rfl⟩)
      (fun r₁ r₂ => ⟨r₂.1 ∘ r₁.1, r₂.2.1.trans r₁.2.1, r₂.2.2.trans r₁.2.2⟩)
      (fun acc b a' hs => by
        simp only at hs
        split at hs
        · cases hs
        · split at hs
          · cases hs
          · rename_i ho
            cases hs
            exact ⟨_, rfl, optimizeLayer_keeps_structure ho⟩) h
    cases h0
    exact r
  | addLayer o =>
    simp only [applyMutStep] at h
    split at h
    · cases h
    · rename_i y' hy
      cases h
      obtain ⟨_, ls, _, hr, rfl, hv⟩ := addRandomLayers_eq_ok hy
      obtain ⟨l, rfl⟩ := List.length_eq_one_iff.mp (randomLayers_length hr)
      exact ⟨fun _ => hv, rfl, l, rfl, _, rfl⟩
  | removeLayers k =>
    simp only [applyMutStep] at h
    split at h
    · rename_i h1; cases h; exact ⟨id, rfl, Or.inl ⟨h1, rfl⟩⟩
    · split at h
      · cases h
      · rename_i y' hy
        cases h
        obtain ⟨hk0, hk1, rfl, hv⟩ := removeLayers_eq_ok.mp hy
        exact ⟨fun _ => hv, rfl, Or.inr ⟨by omega, by omega, by simp⟩⟩

def exA : Indiv := ⟨2, [⟨2, [.crot 0 1, .ctrl 1 0]⟩], [1, 2, 3]⟩
def exB : Indiv := ⟨2, [⟨2, [.ctrl 0 1, .crot 1 0]⟩], [1, 2, 3]⟩   -- the mirror image: Python-equal to exA
def exC : Indiv := ⟨2, [⟨2, [.rot 0, .rot 1]⟩], [0, 0, 0, 0, 0, 0]⟩
def exPop : Pop := ⟨[exA, exC, exB, exA], none, none, none⟩

example : pyEq exA exB = true ∧ (exA == exB) = false := by decide
-- threshold 0: only Python-equal individuals share a species; exA, exB, exA end up together
example : (speciate 0 [0, 1] exPop).toOption.map (fun r => r.1.members.map (fun m => m.map Prod.snd)) =
    some (some [[0, 2, 3], [1]]) := by decide +kernel

end QVerif.Evqe
