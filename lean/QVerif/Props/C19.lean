import QVerif.Lemmas.Jssp

/-!
# C19 — schedule verdicts match the JSSP definition; only well-formed data accepted
-/

namespace QVerif.Jssp

/-! ## Declarative well-formedness (the documented rules) -/

def WFOperation (o : Operation) : Prop := o.name ≠ "" ∧ o.jobName ≠ "" ∧ 0 < o.dur

def WFJob (j : Job) : Prop :=
  j.name ≠ "" ∧ j.ops ≠ [] ∧ (j.ops.map Operation.ident).Nodup ∧ (∀ o ∈ j.ops, o.jobName = j.name) ∧
    (j.ops.map Operation.machine).Nodup

def WFInstanceShallow (i : Instance) : Prop :=
  i.name ≠ "" ∧ i.machines.Nodup ∧ (i.jobs.map Job.name).Nodup ∧ ∀ j ∈ i.jobs, ∀ o ∈ j.ops, o.machine ∈ i.machines

/-- the full (deep) rule set: everything reachable from an instance is well-formed -/
def WFInstance (i : Instance) : Prop :=
  (∀ m ∈ i.machines, m ≠ "") ∧
  (∀ j ∈ i.jobs, (∀ o ∈ j.ops, o.machine ≠ "" ∧ WFOperation o) ∧ WFJob j) ∧
  WFInstanceShallow i

/-- a schedule matches its instance (what the result constructor demands) -/
def Matches (i : Instance) (s : Schedule) : Prop :=
  (∀ j, j ∈ i.jobs ↔ j ∈ s.map Prod.fst) ∧ ∀ j ∈ i.jobs, (s.get j).map SchedOp.op = j.ops

theorem checkMachine_ok_iff (m : Machine) : checkMachine m = .ok () ↔ m ≠ "" := by
  simp only [checkMachine, guard_eq_ok, and_true, ne_eq]

theorem checkOperation_ok_iff (o : Operation) : checkOperation o = .ok () ↔ WFOperation o := by
  simp only [checkOperation, guard_eq_ok, WFOperation, and_true, Int.not_le, ne_eq]

theorem checkJob_ok_iff (j : Job) : checkJob j = .ok () ↔ WFJob j := by
  have hlen := card_ne_length_iff (j.ops.map Operation.ident)
  rw [List.length_map] at hlen
  simp only [checkJob, guard_eq_ok, hlen, jobLoop_ok_iff, WFJob, List.length_eq_zero_iff, ne_eq,
    List.not_mem_nil, not_false_eq_true, implies_true, true_and]

theorem checkInstance_ok_iff (i : Instance) : checkInstance i = .ok () ↔ WFInstanceShallow i := by
  have hlen := card_ne_length_iff (i.jobs.map Job.name)
  rw [List.length_map] at hlen
  simp only [checkInstance, guard_eq_ok, ok_or_raise_eq_ok, card_ne_length_iff, hlen, WFInstanceShallow, ne_eq,
    Job.consistentWith, List.all_eq_true, decide_eq_true_eq, and_true]

theorem firstErr_ok_iff (l : List (Except Err Unit)) : firstErr l = .ok () ↔ ∀ x ∈ l, x = .ok () := by
  induction l with
  | nil => simp [firstErr]
  | cons a t ih =>
    cases a with
    | error e => simp [firstErr]
    | ok u => simp [firstErr, ih]

/-- **accepted ⇔ well-formed**: building an instance bottom-up from raw data succeeds exactly for
well-formed data (non-empty names, positive durations, unique operation identifiers, no machine twice
in a job, machines unique and declared, job names unique). -/
theorem accepted_iff_wellformed (i : Instance) : buildInstance i = .ok () ↔ WFInstance i := by
  unfold buildInstance WFInstance
  rw [firstErr_ok_iff]
  -- the checks, in the order they are run: machines; per job its operations' machines, its operations, the job; the instance
  have hmem : ∀ x, x ∈ i.machines.map checkMachine ++ i.jobs.flatMap jobChecks ++ [checkInstance i] ↔
      ((∃ m ∈ i.machines, checkMachine m = x) ∨
       (∃ j ∈ i.jobs, (∃ o ∈ j.ops, x = checkMachine o.machine ∨ x = checkOperation o) ∨ x = checkJob j)) ∨
      x = checkInstance i := by
    intro x
    simp only [List.mem_append, List.mem_map, List.mem_flatMap, jobChecks, List.mem_cons, List.not_mem_nil, or_false]
  simp only [hmem]
  constructor
  · intro h
    have hmach : ∀ m ∈ i.machines, checkMachine m = .ok () := fun m hm => h _ (.inl (.inl ⟨m, hm, rfl⟩))
    have hopm : ∀ j ∈ i.jobs, ∀ o ∈ j.ops, checkMachine o.machine = .ok () :=
      fun j hj o ho => h _ (.inl (.inr ⟨j, hj, .inl ⟨o, ho, .inl rfl⟩⟩))
    have hop : ∀ j ∈ i.jobs, ∀ o ∈ j.ops, checkOperation o = .ok () :=
      fun j hj o ho => h _ (.inl (.inr ⟨j, hj, .inl ⟨o, ho, .inr rfl⟩⟩))
    have hjob : ∀ j ∈ i.jobs, checkJob j = .ok () := fun j hj => h _ (.inl (.inr ⟨j, hj, .inr rfl⟩))
    have hinst : checkInstance i = .ok () := h _ (.inr rfl)
    exact ⟨fun m hm => (checkMachine_ok_iff m).mp (hmach m hm),
      fun j hj => ⟨fun o ho => ⟨(checkMachine_ok_iff _).mp (hopm j hj o ho), (checkOperation_ok_iff o).mp (hop j hj o ho)⟩,
        (checkJob_ok_iff j).mp (hjob j hj)⟩,
      (checkInstance_ok_iff i).mp hinst⟩
  · rintro ⟨hm, hj, hi⟩ x hx
    rcases hx with (⟨m, hm', rfl⟩ | ⟨j, hj', (⟨o, ho, (rfl | rfl)⟩ | rfl)⟩) | rfl
    · exact (checkMachine_ok_iff m).mpr (hm m hm')
    · exact (checkMachine_ok_iff _).mpr ((hj j hj').1 o ho).1
    · exact (checkOperation_ok_iff o).mpr ((hj j hj').1 o ho).2
    · exact (checkJob_ok_iff j).mpr (hj j hj').2
    · exact (checkInstance_ok_iff i).mpr hi

theorem sameJobSet_iff (i : Instance) (s : Schedule) :
    sameJobSet i s = true ↔ ∀ j, j ∈ i.jobs ↔ j ∈ s.map Prod.fst := by
  simp only [sameJobSet, Bool.and_eq_true, List.all_eq_true, decide_eq_true_eq]
  constructor
  · rintro ⟨h1, h2⟩ j; exact ⟨h1 j, h2 j⟩
  · intro h; exact ⟨fun j => (h j).mp, fun j => (h j).mpr⟩

theorem sameOps_iff (i : Instance) (s : Schedule) :
    sameOps i s = true ↔ ∀ j ∈ i.jobs, (s.get j).map SchedOp.op = j.ops := by
  simp only [sameOps, List.all_eq_true, decide_eq_true_eq]
  constructor
  · intro h j hj; exact (h j hj).symm
  · intro h j hj; exact (h j hj).symm

/-- the result constructor accepts exactly the schedules that match the instance -/
theorem checkResult_ok_iff (i : Instance) (s : Schedule) : checkResult i s = .ok () ↔ Matches i s := by
  unfold checkResult Matches
  rw [← sameJobSet_iff, ← sameOps_iff]
  cases sameJobSet i s <;> cases sameOps i s <;> simp

/-- The JSSP definition of a feasible schedule, stated on the per-job rows, independently of the code's
sorting: everything is scheduled; in each job every operation starts no earlier than the end of its
predecessor; no two operations on one machine overlap in time. -/
def Feasible (rows : List (List SchedOp)) : Prop :=
  (∀ r ∈ rows, ∀ s ∈ r, s.start.isSome = true) ∧
  (∀ r ∈ rows, Consec (toSlots r)) ∧
  ((rows.map toSlots).flatten.Pairwise (fun a b => a.machine = b.machine → disj a b))

theorem mem_toSlots {r : List SchedOp} {o : Slot} (h : o ∈ toSlots r) :
    ∃ s ∈ r, o.machine = s.op.machine ∧ o.dur = s.op.dur := by
  simp only [toSlots, List.mem_filterMap] at h
  obtain ⟨s, hs, ho⟩ := h
  cases hst : s.start with
  | none => simp [hst] at ho
  | some t => simp only [hst, Option.map_some, Option.some.injEq] at ho; subst ho; exact ⟨s, hs, rfl, rfl⟩

theorem mem_slots {rows : List (List SchedOp)} {o : Slot} :
    o ∈ (rows.map toSlots).flatten ↔ ∃ r ∈ rows, o ∈ toSlots r := by
  simp only [List.mem_flatten, List.mem_map]
  exact ⟨fun ⟨_, ⟨r, hr, e⟩, h⟩ => ⟨r, hr, e ▸ h⟩, fun ⟨r, hr, h⟩ => ⟨_, ⟨r, hr, rfl⟩, h⟩⟩

/-- the early returns of `_is_valid_solution` as a conjunction -/
theorem isValidRows_eq (machines : List Machine) (rows : List (List SchedOp)) :
    isValidRows machines rows = (allScheduled rows && ((rows.map toSlots).all chainOk &&
      machines.all (fun m => chainOk (sortByStart ((rows.map toSlots).flatten.filter (fun o => o.machine = m)))))) := by
  unfold isValidRows
  cases allScheduled rows <;> cases h : (rows.map toSlots).all chainOk <;> simp [h]

/-- **Verdict ⇔ definition** on rows: for operations with positive durations on declared machines, for
every assignment of start times (or "unscheduled"). -/
theorem isValidRows_iff_feasible (machines : List Machine) (rows : List (List SchedOp))
    (hwf : ∀ r ∈ rows, ∀ s ∈ r, 0 < s.op.dur ∧ s.op.machine ∈ machines) :
    isValidRows machines rows = true ↔ Feasible rows := by
  have hflat : ∀ o ∈ (rows.map toSlots).flatten, 0 < o.dur ∧ o.machine ∈ machines := by
    intro o ho
    obtain ⟨r, hr, hor⟩ := mem_slots.mp ho
    obtain ⟨s, hs, hm, hd⟩ := mem_toSlots hor
    rw [hm, hd]; exact hwf r hr s hs
  rw [isValidRows_eq, Bool.and_eq_true, Bool.and_eq_true]
  refine and_congr (by simp [allScheduled]) (and_congr ?_ ?_)
  · simp [List.all_eq_true, chainOk_iff_consec]
  · rw [← per_machine_iff machines _ (fun o ho => (hflat o ho).2), List.all_eq_true]
    refine forall₂_congr fun m _ => ?_
    exact sorted_check_iff _ (fun o ho => (hflat o (List.mem_filter.mp ho).1).1)

/-- rows of an accepted result carry the instance's operations -/
theorem rows_wf {i : Instance} {s : Schedule} (hi : WFInstance i) (hs : Matches i s) :
    ∀ r ∈ rowsOf i s, ∀ x ∈ r, 0 < x.op.dur ∧ x.op.machine ∈ i.machines := by
  intro r hr x hx
  simp only [rowsOf, List.mem_map] at hr
  obtain ⟨j, hj, rfl⟩ := hr
  have hops := hs.2 j hj
  have hxo : x.op ∈ j.ops := by rw [← hops]; exact List.mem_map_of_mem hx
  obtain ⟨-, hjobs, -, -, -, hdecl⟩ := hi
  obtain ⟨-, -, -, hdur⟩ := (hjobs j hj).1 x.op hxo
  exact ⟨hdur, hdecl j hj x.op hxo⟩

/-- **C19 main theorem.** For every accepted instance and every accepted result (every assignment of
start times or "unscheduled" to its operations), `is_valid` is `True` exactly when the schedule is
feasible in the sense of the JSSP definition. -/
theorem isValid_iff_feasible (i : Instance) (s : Schedule)
    (hi : buildInstance i = .ok ()) (hs : checkResult i s = .ok ()) :
    isValid i s = true ↔ Feasible (rowsOf i s) :=
  isValidRows_iff_feasible _ _ (rows_wf ((accepted_iff_wellformed i).mp hi) ((checkResult_ok_iff i s).mp hs))

/-- `max(l, default=d)` is `d` for the empty list and otherwise the greatest element -/
theorem maxList_spec (l : List Int) (d : Int) :
    (l = [] ∧ maxList l d = d) ∨ (maxList l d ∈ l ∧ ∀ x ∈ l, x ≤ maxList l d) := by
  cases l with
  | nil => exact Or.inl ⟨rfl, rfl⟩
  | cons a t => exact Or.inr (List.max?_eq_some_iff.mp (List.max?_cons' (x := a) (xs := t)))

theorem mem_rowEnds {rows : List (List SchedOp)} {e : Int} :
    e ∈ (rows.map toSlots).filterMap rowEnd ↔ ∃ r ∈ rows, ∃ o, (toSlots r).getLast? = some o ∧ o.fin = e := by
  simp only [List.mem_filterMap, List.mem_map, rowEnd, Option.map_eq_some_iff]
  exact ⟨fun ⟨_, ⟨r, hr, e⟩, h⟩ => ⟨r, hr, e ▸ h⟩, fun ⟨r, hr, h⟩ => ⟨_, ⟨r, hr, rfl⟩, h⟩⟩

/-- **Makespan**: `None` when invalid; when valid it is the latest end time over *all* operations
(an upper bound that is attained whenever there is an operation at all, and `0` for an instance without
jobs). -/
theorem makespan_spec (machines : List Machine) (rows : List (List SchedOp))
    (hwf : ∀ r ∈ rows, ∀ s ∈ r, 0 < s.op.dur ∧ s.op.machine ∈ machines) :
    (isValidRows machines rows = false → makespanRows machines rows = none) ∧
    (isValidRows machines rows = true → ∃ M, makespanRows machines rows = some M ∧
      (∀ o ∈ (rows.map toSlots).flatten, o.fin ≤ M) ∧
      (((rows.map toSlots).flatten ≠ []) → ∃ o ∈ (rows.map toSlots).flatten, o.fin = M) ∧
      ((rows.map toSlots).flatten = [] → M = 0)) := by
  refine ⟨fun h => by simp [makespanRows, h], fun hv => ?_⟩
  have hf := (isValidRows_iff_feasible machines rows hwf).mp hv
  have hpos : ∀ r ∈ rows, ∀ o ∈ toSlots r, 0 < o.dur := fun r hr o ho => by
    obtain ⟨s, hs, _, hd⟩ := mem_toSlots ho
    rw [hd]; exact (hwf r hr s hs).1
  -- every slot is dominated by the end of its row, and every row end is the end of a slot
  have hdom : ∀ o ∈ (rows.map toSlots).flatten, ∃ e ∈ (rows.map toSlots).filterMap rowEnd, o.fin ≤ e := fun o ho => by
    obtain ⟨r, hr, hor⟩ := mem_slots.mp ho
    obtain ⟨z, hz⟩ : ∃ z, (toSlots r).getLast? = some z :=
      ⟨_, List.getLast?_eq_some_getLast (List.ne_nil_of_mem hor)⟩
    have hc := (chainOk_iff_before (hpos r hr)).mp ((chainOk_iff_consec _).mpr (hf.2.1 r hr))
    exact ⟨z.fin, mem_rowEnds.mpr ⟨r, hr, z, hz, rfl⟩, before_last (hpos r hr) hc hz o hor⟩
  have hend : ∀ e ∈ (rows.map toSlots).filterMap rowEnd, ∃ o ∈ (rows.map toSlots).flatten, o.fin = e := fun e he => by
    obtain ⟨r, hr, o, ho, rfl⟩ := mem_rowEnds.mp he
    exact ⟨o, mem_slots.mpr ⟨r, hr, List.mem_of_getLast? ho⟩, rfl⟩
  refine ⟨maxList ((rows.map toSlots).filterMap rowEnd) 0, by simp [makespanRows, hv], ?_⟩
  rcases maxList_spec ((rows.map toSlots).filterMap rowEnd) 0 with ⟨hnil, h0⟩ | ⟨hmem, hmax⟩
  · -- no row end, hence no slot
    have hno : ∀ o, o ∉ (rows.map toSlots).flatten := fun o ho => by
      obtain ⟨e, he, _⟩ := hdom o ho
      rw [hnil] at he; cases he
    exact ⟨fun o ho => absurd ho (hno o), fun hne => absurd (List.eq_nil_iff_forall_not_mem.mpr hno) hne, fun _ => h0⟩
  · obtain ⟨o, ho, hfin⟩ := hend _ hmem
    refine ⟨fun o' ho' => ?_, fun _ => ⟨o, ho, hfin⟩, fun hnil => by rw [hnil] at ho; cases ho⟩
    obtain ⟨e, he, hle⟩ := hdom o' ho'
    exact Int.le_trans hle (hmax e he)

/-- the valid-schedule accessor raises exactly when the result is invalid -/
theorem validSchedule_raises_iff (i : Instance) (s : Schedule) :
    (validSchedule i s = .error .invalidResult ↔ isValid i s = false) ∧
    (validSchedule i s = .ok s ↔ isValid i s = true) := by
  unfold validSchedule; cases isValid i s <;> simp

/-! ## Non-vacuity: the test-suite's 2-job / 2-machine instance -/

def exInstance : Instance :=
  { name := "i", machines := ["m1", "m2"],
    jobs := [ { name := "j1", ops := [⟨"o1", "j1", "m1", 1⟩, ⟨"o2", "j1", "m2", 1⟩] },
              { name := "j2", ops := [⟨"o1", "j2", "m2", 1⟩, ⟨"o2", "j2", "m1", 2⟩] } ] }

def exSchedule (a b c d : Option Int) : Schedule :=
  [ (exInstance.jobs[0]!, [⟨⟨"o1", "j1", "m1", 1⟩, a⟩, ⟨⟨"o2", "j1", "m2", 1⟩, b⟩]),
    (exInstance.jobs[1]!, [⟨⟨"o1", "j2", "m2", 1⟩, c⟩, ⟨⟨"o2", "j2", "m1", 2⟩, d⟩]) ]

-- (evaluated by `#guard`: the kernel does not reduce `String` equality, so these are run, not `decide`d)
#guard (buildInstance exInstance).isOk
#guard (checkResult exInstance (exSchedule (some 0) (some 1) (some 0) (some 1))).isOk
#guard isValid exInstance (exSchedule (some 0) (some 1) (some 0) (some 1)) = true
#guard makespan exInstance (exSchedule (some 0) (some 1) (some 0) (some 1)) = some 3
-- equal start times on one machine: overlap
#guard isValid exInstance (exSchedule (some 1) (some 2) (some 0) (some 1)) = false
-- unscheduled
#guard isValid exInstance (exSchedule (some 0) none (some 0) (some 1)) = false
#guard (match buildInstance { exInstance with machines := ["m1", "m1"] } with
  | .error .instDupMachines => true | _ => false)

end QVerif.Jssp
