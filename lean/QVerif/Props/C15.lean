import QVerif.Lemmas.EncoderSupp
import QVerif.Lemmas.Lists

/-!
# C15 — the JSSP encoding is total, complete and injective
-/

namespace QVerif.Encoder

/-- **a limit is accepted iff no job is longer than it**; the only error is the documented one -/
theorem prepare_ok_iff (inst : EInst) (limit : Nat) :
    ((∃ vars, prepare inst limit = .ok vars) ↔ ∀ j ∈ inst, jobTotal j ≤ limit) ∧
    (∀ e, prepare inst limit = .error e → e = .limitTooShort) := by
  unfold prepare
  constructor
  · constructor
    · rintro ⟨vars, h⟩; exact (prepareFrom_spec limit inst 0 vars h).le
    · intro h
      cases hp : prepareFrom limit inst 0 with
      | ok vars => exact ⟨vars, rfl⟩
      | error e =>
        obtain ⟨_, j, hj, hlt⟩ := prepareFrom_error limit inst 0 e hp
        have := h j hj; omega
  · intro e h; exact (prepareFrom_error limit inst 0 e h).1

/-- **qubit count**: every operation of a job needs `limit − (total duration of the job)` qubits -/
theorem nqubits_formula (inst : EInst) (limit : Nat) (vars : List (List Var)) (h : prepare inst limit = .ok vars) :
    nQubits vars = (inst.map (fun j => j.length * (limit - jobTotal j))).sum :=
  (prepareFrom_spec limit inst 0 vars h).nq

/-- **a Hamiltonian exists exactly when the limit is long enough and at least one qubit is needed** -/
theorem hamiltonian_ok (pen : Penalties) (inst : EInst) (limit : Nat) (bits : Bits) :
    (∃ e, energy pen inst limit bits = .ok e) ↔
      ∃ vars, prepare inst limit = .ok vars ∧ 1 ≤ nQubits vars := by
  unfold energy
  cases hp : prepare inst limit with
  | error e => simp
  | ok vars =>
    simp only [Except.ok.injEq, exists_eq_left']
    by_cases h0 : nQubits vars = 0
    · simp [h0]
    · simp only [h0, ↓reduceIte, Except.ok.injEq, exists_eq', true_iff]; omega

/-- **the Hamiltonian is an operator on exactly the reported qubits**: whenever the limit is long enough and at least one
qubit is needed, the operator the encoder builds (the sum of products of `I`/`Z` strings of `Model/EncoderPoly.lean`) exists,
every `Z` in every one of its terms acts on a qubit below `n_qubits`, and on every basis state its value is the eigenvalue
`energy` that the theorems of C01/C02 are about -/
theorem hamiltonian_on_n_qubits (pen : Penalties) (inst : EInst) (limit : Nat) (vars : List (List Var))
    (h : prepare inst limit = .ok vars) (h1 : 1 ≤ nQubits vars) :
    ∃ H, energyPoly pen inst limit = .ok H ∧ Supp H (nQubits vars) ∧
      ∀ bits, energy pen inst limit bits = .ok (evalPoly bits H) := by
  refine ⟨energyPolyOf pen inst vars limit, ?_, energyPolyOf_supp pen inst limit vars h, ?_⟩
  · unfold energyPoly
    rw [h]
    simp only
    rw [if_neg (by omega)]
  · intro bits
    unfold energy
    rw [h]
    simp only
    rw [if_neg (by omega), eval_energyPolyOf]

/-- **decoding is total**: every bitstring yields one entry per operation (scheduled or not) -/
theorem translate_total (vars : List (List Var)) (bits : Bits) :
    (translate vars bits).length = vars.length ∧
    ∀ i (h1 : i < (translate vars bits).length) (h2 : i < vars.length), ((translate vars bits)[i]).length = (vars[i]).length := by
  unfold translate
  refine ⟨by simp, fun i h1 h2 => by simp⟩

theorem decodeVar_range (v : Var) (bits : Bits) (s : Nat) (h : decodeVar v bits = some s) :
    v.lo ≤ s ∧ s ≤ v.lo + v.nq := by
  obtain ⟨k, hk, rfl⟩ := decodeVar_eq_some_iff.mp h
  have := (decodeWindow_some _ _ hk).1
  have := window_length_le v bits
  omega

/-- **decoded start times respect the bounds**: operation `k` of job `i` never starts before the summed duration
of its predecessors (so never before 0) and always leaves room for itself and its successors before the limit -/
theorem decoded_within_bounds (inst : EInst) (limit : Nat) (vars : List (List Var)) (h : prepare inst limit = .ok vars)
    (bits : Bits) (i : Nat) (hi : i < inst.length) (hi' : i < vars.length) (k : Nat) (hk : k < (vars[i]).length)
    (hk' : k < (inst[i]).length) (s : Nat) (hs : decodeVar ((vars[i])[k]) bits = some s) :
    (((inst[i]).take k).map EOp.dur).sum ≤ s ∧
    s + ((inst[i])[k]).dur + (((inst[i]).drop (k + 1)).map EOp.dur).sum ≤ limit := by
  have hp := prepareFrom_spec limit inst 0 vars h
  obtain ⟨q', hq'⟩ : ∃ q', vars[i] = jobVars limit (jobTotal inst[i]) inst[i] q' 0 :=
    hp.rows (inst[i], vars[i]) (by rw [← List.getElem_zip (h := by rw [List.length_zip]; omega)]; exact List.getElem_mem _)
  have hjl := hp.le (inst[i]) (List.getElem_mem hi)
  generalize vars[i] = row at hq' hk hs
  subst hq'
  have hn := (jobVars_spec limit (jobTotal inst[i]) inst[i] q' 0).2.2.2 _ (List.getElem_mem hk)
  have hlo := jobVars_lo limit (jobTotal inst[i]) inst[i] q' 0 k hk
  obtain ⟨h1, h2⟩ := decodeVar_range _ bits s hs
  have hsplit := sum_split ((inst[i]).map EOp.dur) k (by simpa using hk')
  simp only [List.getElem_map, ← List.map_take, ← List.map_drop] at hsplit
  have : jobTotal inst[i] = ((inst[i]).map EOp.dur).sum := rfl
  simp only [Var.nq] at h2
  -- lo = Σ predecessors (`hlo`); s ≤ lo + (limit − total) (`h2`, `hn`); total = Σ predecessors + dur + Σ successors (`hsplit`)
  constructor <;> omega

/-- **decoding is injective on fully scheduled results**: two bitstrings of the right length that decode every
variable, to the same values, are the same bitstring -/
theorem decode_injective (inst : EInst) (limit : Nat) (vars : List (List Var)) (h : prepare inst limit = .ok vars)
    (b1 b2 : Bits) (h1 : b1.length = nQubits vars) (h2 : b2.length = nQubits vars)
    (hd : ∀ v ∈ vars.flatten, (decodeVar v b1).isSome = true ∧ decodeVar v b1 = decodeVar v b2) : b1 = b2 := by
  apply bits_eq_of_windows vars.flatten b1 b2 (prepare_tiled h) h1 h2
  intro v hv
  obtain ⟨hsome, heq⟩ := hd v hv
  obtain ⟨s, hs⟩ := Option.isSome_iff_exists.mp hsome
  obtain ⟨k1, hw1, e1⟩ := decodeVar_eq_some_iff.mp hs
  obtain ⟨k2, hw2, e2⟩ := decodeVar_eq_some_iff.mp (heq ▸ hs)
  obtain rfl : k1 = k2 := by omega
  -- both windows are the wall at `k1`, of the same length
  rw [(decodeWindow_some _ _ hw1).2, (decodeWindow_some _ _ hw2).2, prepare_window_length h h1 v hv,
    prepare_window_length h h2 v hv]

/-- **decoding is complete (variables)**: any choice of one value per variable is the decoding of some bitstring
of the right length -/
theorem decode_complete_vars (inst : EInst) (limit : Nat) (vars : List (List Var)) (h : prepare inst limit = .ok vars)
    (choice : List Nat) (hlen : choice.length = vars.flatten.length)
    (hc : ∀ i (h1 : i < choice.length) (h2 : i < vars.flatten.length), choice[i] ≤ (vars.flatten[i]).nq) :
    ∃ bits : Bits, bits.length = nQubits vars ∧
      ∀ i (h1 : i < choice.length) (h2 : i < vars.flatten.length),
        decodeVar (vars.flatten[i]) bits = some ((vars.flatten[i]).lo + choice[i]) := by
  obtain ⟨bits, hbl, hb⟩ := exists_suffix_decoding vars.flatten choice 0 (prepare_tiled h) hlen.symm (fun p hp => by
    obtain ⟨i, hi, rfl⟩ := List.getElem_of_mem hp
    rw [List.length_zip] at hi
    simpa using hc i (by omega) (by omega))
  refine ⟨bits, hbl, fun i h1 h2 => ?_⟩
  have := hb [] rfl (vars.flatten[i], choice[i]) (by
    rw [← List.getElem_zip (h := by rw [List.length_zip]; omega)]; exact List.getElem_mem _)
  simpa using this

/-- **every feasible schedule within the limit is representable**: if the start times of a job respect the
precedence order (each operation starts no earlier than the end of its predecessor, the first not before 0) and
the last operation ends by the limit, every start time lies in the value range of its variable, i.e. between
the summed duration of its predecessors and `limit −` (own duration + summed duration of its successors) -/
theorem feasible_in_window : ∀ (durs starts : List Nat) (head limit : Nat), durs.length = starts.length →
    (∀ s ∈ starts.head?, head ≤ s) →
    (∀ i (h1 : i + 1 < starts.length) (h2 : i < durs.length), starts[i] + durs[i] ≤ starts[i + 1]) →
    (∀ (h : starts ≠ []) (h' : durs ≠ []), starts.getLast h + durs.getLast h' ≤ limit) →
    ∀ i (h1 : i < starts.length) (h2 : i < durs.length),
      head + (durs.take i).sum ≤ starts[i] ∧ starts[i] + durs[i] + (durs.drop (i + 1)).sum ≤ limit := by
  intro durs starts head limit hl hh hp hlast i h1 h2
  constructor
  · -- upwards from the first start
    induction i with
    | zero => exact hh _ (by rw [List.head?_eq_getElem?, List.getElem?_eq_getElem h1]; rfl)
    | succ j ih =>
      have := ih (by omega) (by omega)
      have := hp j h1 (by omega)
      rw [List.take_succ_eq_append_getElem (by omega), List.sum_append_nat, List.sum_singleton]
      omega
  · -- downwards from the last end
    obtain ⟨d, hd⟩ : ∃ d, i + 1 + d = starts.length := ⟨starts.length - (i + 1), by omega⟩
    induction d generalizing i with
    | zero =>
      have := hlast (List.ne_nil_of_length_pos (by omega)) (List.ne_nil_of_length_pos (by omega))
      rw [List.getLast_eq_getElem, List.getLast_eq_getElem] at this
      simp only [show starts.length - 1 = i by omega, show durs.length - 1 = i by omega] at this
      rw [List.drop_of_length_le (by omega), List.sum_nil]
      exact this
    | succ e ih =>
      have := ih (i + 1) (by omega) (by omega) (by omega)
      have := hp i (by omega) h2
      rw [List.drop_eq_getElem_cons (by omega), List.sum_cons]
      omega

/-! ## Non-vacuity: the suite's 2-job / 2-machine instance at limit 4 (6 qubits) -/

def exInst : EInst := [[⟨0, 1⟩, ⟨1, 1⟩], [⟨1, 1⟩, ⟨0, 2⟩]]

example : (prepare exInst 4).toOption.map nQubits = some 6 := by decide +kernel
example : (prepare exInst 2).toOption = none := by decide +kernel
-- the bitstring 10 00 | 0 1: j1 starts 1 and 1, j2 starts 0 and 2
example : (prepare exInst 4).toOption.map (fun vs => translate vs [true, false, false, false, false, true]) =
    some [[some 1, some 1], [some 0, some 2]] := by decide +kernel
-- a variable window 0 1 has two domain walls: unscheduled
example : (prepare exInst 4).toOption.map (fun vs => translate vs [false, true, false, false, false, false]) =
    some [[none, some 1], [some 0, some 1]] := by decide +kernel

-- the operator of the example: exists, is supported on the 6 qubits, and evaluates to the eigenvalue function
example : (match energyPoly ⟨300, 100, 100, 100, 0⟩ exInst 4 with
    | .ok H => decide (H.all (fun t => t.2.all (· < 6))) &&
               decide (some (evalPoly [true, false, false, false, false, true] H) =
                       (energy ⟨300, 100, 100, 100, 0⟩ exInst 4 [true, false, false, false, false, true]).toOption)
    | .error _ => false) = true := by decide +kernel

end QVerif.Encoder
