import QVerif.Lemmas.Genome

/-!
# C20 — random genome generation yields valid, redundancy-free structures

Every random draw is an oracle input, so the theorems hold for every seed.
-/

namespace QVerif.Genome

/-- a layer `l` placed directly after `p` introduces no redundant parameters: on no qubit a rotation directly
follows a rotation, and no controlled rotation repeats the same (target, control) pair -/
def NonRedundant (p l : Layer) : Prop :=
  ∀ q : Nat, (∀ a b, l.gates[q]? = some (Gate.rot a) → p.gates[q]? ≠ some (Gate.rot b)) ∧
       (∀ a c, l.gates[q]? = some (Gate.crot a c) → p.gates[q]? ≠ some (Gate.crot a c))

/-- gate `g` may stand at position `q` of a layer that follows `p` -/
def Allowed (p : Layer) (q : Nat) (g : Gate) : Prop :=
  (∀ a, g = Gate.rot a → ∀ b, p.gates[q]? ≠ some (Gate.rot b)) ∧ (∀ a c, g = Gate.crot a c → Gate.crot a c ∉ p.gates)

theorem allowed_id (p : Layer) (q a : Nat) : Allowed p q (.id a) := ⟨nofun, nofun⟩
theorem allowed_ctrl (p : Layer) (q a c : Nat) : Allowed p q (.ctrl a c) := ⟨nofun, nofun⟩
theorem allowed_rot {p : Layer} {q : Nat} (a : Nat) (h : ∀ b, prevGate (some p) q ≠ some (.rot b)) : Allowed p q (.rot a) :=
  ⟨fun _ _ => h, nofun⟩
theorem allowed_crot {p : Layer} (q : Nat) {a c : Nat} (h : Gate.crot a c ∉ p.gates) : Allowed p q (.crot a c) :=
  ⟨nofun, fun _ _ e => by cases e; exact h⟩

/-- invariant of the gate buffer while `random_layer` runs against previous layer `p` -/
def Good (p : Layer) (gates : List Gate) : Prop := ∀ (i : Nat) (g : Gate), gates[i]? = some g → Allowed p i g

theorem good_set {p : Layer} {gates : List Gate} (h : Good p gates) (q : Nat) {g : Gate} (hg : Allowed p q g) :
    Good p (gates.set q g) := by
  intro i g' hi
  rw [List.getElem?_set] at hi
  split at hi
  · rename_i hqi
    split at hi
    · cases hi; subst hqi; exact hg
    · cases hi
  · exact h i g' hi

theorem good_init (p : Layer) (n : Nat) : Good p ((List.range n).map Gate.id) := by
  intro i g hi
  simp only [List.getElem?_map, Option.map_eq_some_iff] at hi
  obtain ⟨a, _, rfl⟩ := hi
  exact allowed_id ..

theorem markLoop_good {p : Layer} {qs : List Nat} {coins : List Bool} {gates : List Gate} {crq : List Nat}
    {gates' : List Gate} {crq' : List Nat} {coins' : List Bool}
    (hg : Good p gates) (h : markLoop (some p) qs coins gates crq = .ok (gates', crq', coins')) : Good p gates' := by
  induction qs generalizing coins gates crq with
  | nil => simp only [markLoop] at h; cases h; exact hg
  | cons q qs ih =>
    -- the previous gate at `q` is a rotation / an identity (nothing is written), or neither (`hnr`, `hni`): then a coin may write
    -- `rot q`, which `hnr` makes `Allowed`
    unfold markLoop at h
    split at h
    · exact ih hg h
    · exact ih hg h
    · rename_i hnr hni
      split at h
      · cases h
      · rename_i c coins''
        split at h
        · exact ih (good_set hg q (allowed_rot q hnr)) h
        · exact ih hg h

theorem pairLoop_good {p : Layer} {pairs : List (Nat × Nat)} {gates : List Gate} {crq : List Nat}
    {gates' : List Gate} {crq' : List Nat} {pairs' : List (Nat × Nat)}
    (hg : Good p gates) (h : pairLoop (some p) pairs gates crq = .ok (gates', crq', pairs')) : Good p gates' := by
  induction pairs generalizing gates crq with
  | nil =>
    unfold pairLoop at h
    split at h
    · cases h; exact hg
    · cases h
  | cons pr rest ih =>
    obtain ⟨r, c⟩ := pr
    unfold pairLoop at h
    split at h
    · cases h; exact hg
    · simp only at h
      split at h
      · rename_i hacc
        simp only [Option.isNone_some, Bool.false_or, Bool.and_eq_true, Bool.not_eq_eq_eq_not, Bool.not_true, inPrev,
          List.contains_eq_mem, decide_eq_false_iff_not] at hacc
        exact ih (good_set (good_set hg c (allowed_ctrl ..)) r (allowed_crot r hacc.1)) h
      · exact ih hg h

theorem finalStep_good {p : Layer} {g2 : List Gate} (crq2 : List Nat) (hg2 : Good p g2) :
    Good p (finalStep (some p) g2 crq2) := by
  unfold finalStep
  split
  · rename_i q
    split
    · exact good_set hg2 q (allowed_id ..)
    · rename_i hnr
      exact good_set hg2 q (allowed_rot q hnr)
  · exact hg2

/-- **`random_layer` is redundancy free** against a previous layer, for every qubit count, every previous layer
and every outcome of the random draws -/
theorem randomLayer_nonredundant (n : Nat) (p : Layer) (o o' : Oracle) (l : Layer)
    (h : randomLayer n (some p) o = .ok (l, o')) : NonRedundant p l := by
  obtain ⟨g1, crq1, g2, crq2, hm, hp, rfl, _⟩ := randomLayer_eq_ok h
  have hg := finalStep_good crq2 (pairLoop_good (markLoop_good (good_init p n) hm) hp)
  exact fun q => ⟨fun a b hl => (hg q _ hl).1 a rfl b, fun a c hl hpq => (hg q _ hl).2 a c rfl (List.mem_of_getElem? hpq)⟩

/-- every layer returned by `random_layer` is valid -/
theorem randomLayer_valid (n : Nat) (prev : Option Layer) (o o' : Oracle) (l : Layer)
    (h : randomLayer n prev o = .ok (l, o')) : l.isValid = true ∧ l.nQubits = n := by
  obtain ⟨_, _, _, _, _, _, rfl, hv⟩ := randomLayer_eq_ok h
  exact ⟨hv, rfl⟩

def ChainNonRedundant : Option Layer → List Layer → Prop
  | _, [] => True
  | none, l :: ls => ChainNonRedundant (some l) ls
  | some p, l :: ls => NonRedundant p l ∧ ChainNonRedundant (some l) ls

/-- **chains are redundancy free**: in `random_individual` and in `add_random_layers` (any number of layers) every
generated layer is redundancy free against the layer directly before it — including the first appended layer
against the individual's last layer -/
theorem randomLayers_chain (n : Nat) : ∀ (k : Nat) (prev : Option Layer) (o o' : Oracle) (ls : List Layer),
    randomLayers n k prev o = .ok (ls, o') → ChainNonRedundant prev ls ∧ ∀ l ∈ ls, l.isValid = true ∧ l.nQubits = n
  | 0, prev, o, o', ls, h => by
      simp only [randomLayers] at h; cases h
      exact ⟨by cases prev <;> trivial, fun _ hl => by cases hl⟩
  | k + 1, prev, o, o', ls, h => by
      obtain ⟨l, o1, ls', hl, hrec, rfl⟩ := randomLayers_succ_eq_ok h
      obtain ⟨hc, hv⟩ := randomLayers_chain n k (some l) o1 _ ls' hrec
      refine ⟨?_, List.forall_mem_cons.mpr ⟨randomLayer_valid n prev o o1 l hl, hv⟩⟩
      cases prev with
      | none => exact hc
      | some p => exact ⟨randomLayer_nonredundant n p o o1 l hl, hc⟩

/-- `add_random_layers`: the appended layers form a redundancy-free chain starting at the old last layer -/
theorem add_chain_nonredundant (x y : Indiv) (k : Int) (o : Oracle) (vals : Nat → List Val)
    (h : addRandomLayers x k o vals = .ok y) :
    ∃ ls, y.layers = x.layers ++ ls ∧ ChainNonRedundant x.layers.getLast? ls := by
  obtain ⟨_, ls, _, hr, rfl, _⟩ := addRandomLayers_eq_ok h
  exact ⟨ls, rfl, (randomLayers_chain _ _ _ _ _ _ hr).1⟩

/-- `random_individual`: all layers valid, parameter count matches the gates, consecutive layers redundancy free -/
theorem individual_chain_nonredundant (n k : Nat) (o : Oracle) (vals : Nat → List Val) (y : Indiv)
    (h : randomIndividual n k o vals = .ok y) :
    y.isValid = true ∧ y.values.length = totalParams y.layers ∧ ChainNonRedundant none y.layers := by
  obtain ⟨ls, _, hr, rfl, hv⟩ := randomIndividual_eq_ok h
  exact ⟨hv, isValid_values_length hv, (randomLayers_chain _ _ _ _ _ _ hr).1⟩

theorem gateOk_of_mem {p : Layer} (hv : p.isValid = true) {g : Gate} (hg : g ∈ p.gates) :
    p.gates[g.qubit]? = some g ∧ gateOk p.gates g.qubit g = true := by
  simp only [Layer.isValid, Bool.and_eq_true, beq_iff_eq, List.all_eq_true] at hv
  obtain ⟨i, hi, rfl⟩ := List.getElem_of_mem hg
  have hok := hv.2 (p.gates[i], i) (by rw [List.mem_zipIdx_iff_getElem?]; simp [List.getElem?_eq_getElem hi])
  have hq : p.gates[i].qubit = i := by
    simp only [gateOk, Bool.and_eq_true, beq_iff_eq] at hok; exact hok.1
  rw [hq]
  exact ⟨List.getElem?_eq_getElem hi, hok⟩

/-- **a retry is always possible**: for a valid previous layer and two qubits (`a ≠ b` is assumed but not used), at most
one of the two orientations of the pair is rejected by the redundancy test, so the `while` loop can always make progress
(each draw is accepted with probability ≥ 1/2; termination for a concrete Mersenne-Twister seed is not a theorem) -/
theorem retry_always_possible (p : Layer) (hv : p.isValid = true) (a b : Nat) (hab : a ≠ b) :
    ¬ ((inPrev (some p) (.crot a b) || inPrev (some p) (.ctrl b a)) = true ∧
       (inPrev (some p) (.crot b a) || inPrev (some p) (.ctrl a b)) = true) := by
  simp only [inPrev, Bool.or_eq_true, List.contains_eq_mem, decide_eq_true_eq]
  rintro ⟨h1, h2⟩
  -- either orientation puts a controlled rotation on one of the two qubits and its control marker on the other;
  -- the two orientations disagree about which
  rcases h1 with h1 | h1 <;> rcases h2 with h2 | h2
  · -- crot a b at a, crot b a at b: position b should be ctrl b a
    have := (gateOk_of_mem hv h1).2
    have e2 := (gateOk_of_mem hv h2).1
    simp only [gateOk, Gate.qubit, beq_self_eq_true, Bool.true_and] at this e2
    rw [e2] at this
    simp at this
  · -- crot a b at a and ctrl a b at a
    cases (gateOk_of_mem hv h1).1.symm.trans (gateOk_of_mem hv h2).1
  · -- ctrl b a at b and crot b a at b
    cases (gateOk_of_mem hv h1).1.symm.trans (gateOk_of_mem hv h2).1
  · -- ctrl b a at b, ctrl a b at a: position a should be crot a b
    have := (gateOk_of_mem hv h1).2
    have e2 := (gateOk_of_mem hv h2).1
    simp only [gateOk, Gate.qubit, beq_self_eq_true, Bool.true_and] at this e2
    rw [e2] at this
    simp at this

/-- 3 qubits, previous layer `[rot, crot 1←2, ctrl]`; coins for qubits 1 and 2 say "controlled"; the sampled pair
(1,2) repeats the previous controlled rotation and is rejected, (2,1) is accepted -/
example : (randomLayer 3 (some ⟨3, [.rot 0, .crot 1 2, .ctrl 2 1]⟩) ⟨[false, false], [(1, 2), (2, 1), (0, 1)]⟩).toOption.map
    (fun r => r.1.gates) = some [.id 0, .ctrl 1 2, .crot 2 1] := by decide +kernel

end QVerif.Genome
