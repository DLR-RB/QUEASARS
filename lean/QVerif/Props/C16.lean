import QVerif.Lemmas.Genome
import QVerif.Lemmas.Lists

/-!
# C16 — structural mutations obey their algebra and keep the denoted state
-/

namespace QVerif.Genome

/-- every operation that returns an individual returns a *valid* one -/
theorem results_valid (x y : Indiv) :
    (∀ vals, changeParameterValues x vals = .ok y → y.isValid = true) ∧
    (∀ i vals, changeLayerParameterValues x i vals = .ok y → y.isValid = true) ∧
    (∀ k, removeLayers x k = .ok y → y.isValid = true) ∧
    (∀ k o vals, addRandomLayers x k o vals = .ok y → y.isValid = true) :=
  ⟨fun _ h => (changeParameterValues_eq_ok.mp h).2.2,
   fun _ _ h => (changeLayerParameterValues_eq_ok.mp h).2.2,
   fun _ h => (removeLayers_eq_ok.mp h).2.2.2,
   fun _ _ _ h => by obtain ⟨_, _, _, _, _, hv⟩ := addRandomLayers_eq_ok h; exact hv⟩

/-- the only errors of the value/structure operations are the documented ones (wrong number of values,
out-of-range layer counts) or the validity check (which `remove_layers` never fails on a valid input, see `remove_total`) -/
theorem documented_errors (x : Indiv) (e : Err) :
    (∀ vals, changeParameterValues x vals = .error e → e = .wrongValueCount ∨ e = .individualInvalid) ∧
    (∀ i vals, changeLayerParameterValues x i vals = .error e → e = .wrongValueCount ∨ e = .individualInvalid) ∧
    (∀ k, removeLayers x k = .error e → e = .nLayersTooSmall ∨ e = .removedTooMany ∨ e = .individualInvalid) := by
  refine ⟨fun vals h => ?_, fun i vals h => ?_, fun k h => ?_⟩
  · exact (guard_eq_error h).imp_right mkIndiv_eq_error
  · exact (guard_eq_error h).imp_right mkIndiv_eq_error
  · exact (guard_eq_error h).imp_right fun h => (guard_eq_error h).imp_right mkIndiv_eq_error

/-- **append keeps a prefix**: all existing layers and parameter values are a prefix of the result, and exactly
`k` layers are appended -/
theorem add_prefix (x y : Indiv) (k : Int) (o : Oracle) (vals : Nat → List Val)
    (h : addRandomLayers x k o vals = .ok y) :
    ∃ ls, ls.length = k.toNat ∧ 1 ≤ k ∧ y.nQubits = x.nQubits ∧ y.layers = x.layers ++ ls ∧
      y.values = x.values ++ vals (totalParams ls) := by
  obtain ⟨hk, ls, o', hr, rfl, _⟩ := addRandomLayers_eq_ok h
  exact ⟨ls, randomLayers_length hr, hk, rfl, rfl, rfl⟩

/-- **removal is total on its documented domain**: for every valid individual and `0 < k < #layers` it succeeds,
keeps the first `#layers − k` layers and exactly their parameter values -/
theorem remove_total (x : Indiv) (k : Int) (hv : x.isValid = true) (h0 : 0 < k) (h1 : k < x.layers.length) :
    ∃ y, removeLayers x k = .ok y ∧ y.nQubits = x.nQubits ∧
      y.layers = x.layers.take (x.layers.length - k.toNat) ∧
      y.values = x.values.take (totalParams (x.layers.take (x.layers.length - k.toNat))) := by
  obtain ⟨hne, hall, hlen⟩ := (isValid_iff x).mp hv
  -- what is left is valid: some layer stays, the layers that stay were valid, and their values are cut to fit
  refine ⟨_, removeLayers_eq_ok.mpr ⟨h0, h1, rfl, (isValid_iff _).mpr
    ⟨fun hnil => ?_, fun l hl => hall l (List.mem_of_mem_take hl), ?_⟩⟩, rfl, rfl, rfl⟩
  · have := congrArg List.length hnil
    simp only [List.length_take, List.length_nil] at this
    omega
  · have := totalParams_take_le x.layers (x.layers.length - k.toNat)
    simp only [List.length_take]
    omega

/-- **remove undoes append** -/
theorem remove_add_inverse (x y : Indiv) (k : Int) (o : Oracle) (vals : Nat → List Val) (hv : x.isValid = true)
    (h : addRandomLayers x k o vals = .ok y) : removeLayers y k = .ok x := by
  obtain ⟨ls, hlen, hk, hn, hl, hvals⟩ := add_prefix x y k o vals h
  obtain ⟨hne, _, hxlen⟩ := (isValid_iff x).mp hv
  have hpos := List.length_pos_iff.mpr hne
  have e1 : y.layers.take (y.layers.length - k.toNat) = x.layers :=
    hl ▸ List.take_left' (by rw [List.length_append, hlen]; omega)
  rw [removeLayers_eq_ok, e1, hvals, List.take_left' hxlen, hn, hl, List.length_append, hlen]
  exact ⟨by omega, by omega, rfl, hv⟩

/-- **changing all values changes nothing else** -/
theorem change_all_only_values (x y : Indiv) (vals : List Val) (h : changeParameterValues x vals = .ok y) :
    y.nQubits = x.nQubits ∧ y.layers = x.layers ∧ y.values = vals := by
  obtain ⟨_, rfl, _⟩ := changeParameterValues_eq_ok.mp h
  exact ⟨rfl, rfl, rfl⟩

theorem normIdx_lt (layerId : Int) {n : Nat} (hn : 0 < n) : normIdx layerId n < n := by
  unfold normIdx
  have h2 : layerId % (n : Int) < n := Int.emod_lt_of_pos _ (by omega)
  omega

/-- **changing one layer's values changes nothing but those values** (for any layer id, negative ids counting
from the end as in Python): the structure is unchanged, the addressed layer reads back the new values and every
other layer reads back its old values -/
theorem change_layer_only_values (x y : Indiv) (layerId : Int) (vals : List Val) (hv : x.isValid = true)
    (h : changeLayerParameterValues x layerId vals = .ok y) :
    y.nQubits = x.nQubits ∧ y.layers = x.layers ∧
    layerValues y (normIdx layerId x.layers.length) = vals ∧
    ∀ j, j < x.layers.length → j ≠ normIdx layerId x.layers.length → layerValues y j = layerValues x j := by
  obtain ⟨hne, _, hxlen⟩ := (isValid_iff x).mp hv
  obtain ⟨hcnt, rfl, _⟩ := changeLayerParameterValues_eq_ok.mp h
  -- the new value tuple is built from chunks of the right lengths, so every layer reads its chunk back
  have hread := layerValues_flatten x.nQubits x.layers
    (fun j => if j ≠ normIdx layerId x.layers.length then layerValues x j else vals) (fun j hj => by
      split
      · exact layerValues_length x (by omega) j hj
      · rename_i hji; rw [Decidable.not_not.mp hji, hcnt])
  refine ⟨rfl, rfl, ?_, fun j hj hji => ?_⟩
  · rw [hread _ (normIdx_lt layerId (List.length_pos_iff.mpr hne))]; simp
  · rw [hread j hj]; simp [hji]

/-- a bound gate: kind/qubits and the three angle tokens looked up for it (`none` for gates without parameters) -/
structure BoundGate where
  gate : Gate
  angles : Option (Val × Val × Val)
  deriving DecidableEq, Repr

/-- gates of layer `i` bound layer-locally with `vals` (`get_layer_gate`): parameter `m` of the sorted parameter
list of the layer receives `vals[m]` -/
def layerBound (i : Nat) (l : Layer) (vals : List Val) : List BoundGate :=
  let b := bindPositional (layerSlots i l) vals
  l.gates.map (fun g =>
    if g.nParams = 3 then
      { gate := g, angles := some ((lookupSlot b ⟨i, g.qubit, .theta⟩).getD 0, (lookupSlot b ⟨i, g.qubit, .phi⟩).getD 0,
                                    (lookupSlot b ⟨i, g.qubit, .lam⟩).getD 0) }
    else { gate := g, angles := none })

/-- meaning of an individual for an arbitrary gate semantics into an arbitrary monoid-like structure
(`mul`, `one`): product over layers and gates, every layer bound with its own values
(`get_partially_parameterized_quantum_circuit(set())`) -/
def denote {M} (mul : M → M → M) (one : M) (sem : BoundGate → M) (x : Indiv) : M :=
  ((List.range x.layers.length).flatMap (fun i => layerBound i (x.layers.getD i default) (layerValues x i))).foldl
    (fun acc g => mul acc (sem g)) one

theorem lookupSlot_zero {b : Binding} (hb : ∀ p ∈ b, p.2 = 0) (s : Slot) : (lookupSlot b s).getD 0 = 0 := by
  unfold lookupSlot
  cases hf : b.find? (fun p => p.1 == s) with
  | none => rfl
  | some p => exact hb p (List.mem_of_find?_eq_some hf)

theorem layerBound_zero (i : Nat) (l : Layer) {vals : List Val} (hz : ∀ v ∈ vals, v = 0) :
    ∀ g ∈ layerBound i l vals, g.angles = none ∨ g.angles = some (0, 0, 0) := by
  intro g hg
  simp only [layerBound, List.mem_map] at hg
  obtain ⟨g0, _, rfl⟩ := hg
  have hb : ∀ p ∈ bindPositional (layerSlots i l) vals, p.2 = 0 := fun p hp => hz _ (List.of_mem_zip hp).2
  split
  · right; simp only [lookupSlot_zero hb]
  · left; rfl

theorem foldl_one {M} (mul : M → M → M) (one : M) (sem : BoundGate → M) (hone : ∀ a, mul a one = a) :
    ∀ (gs : List BoundGate) (acc : M), (∀ g ∈ gs, sem g = one) → gs.foldl (fun a g => mul a (sem g)) acc = acc
  | [], _, _ => rfl
  | g :: gs, acc, h => by
      rw [List.foldl_cons, h g (by simp), hone]
      exact foldl_one mul one sem hone gs acc (fun g' hg' => h g' (List.mem_cons_of_mem _ hg'))

/-- **zero-initialised appended layers keep the denoted state**: for every gate semantics `sem` into any structure
with a right-neutral `one`, such that gates without parameters (identity, control marker) and gates whose three
angles are zero denote `one` (true of Qiskit's `id`, `U(0,0,0)`, `CU3(0,0,0)`), the individual returned by
`add_random_layers(..., randomize_parameter_values=False)` denotes the same as the original. -/
theorem add_zero_keeps_denotation {M} (mul : M → M → M) (one : M) (sem : BoundGate → M) (hone : ∀ a, mul a one = a)
    (hsem : ∀ g : BoundGate, (g.angles = none ∨ g.angles = some (0, 0, 0)) → sem g = one)
    (x y : Indiv) (k : Int) (o : Oracle) (hv : x.isValid = true)
    (h : addRandomLayers x k o (fun n => List.replicate n 0) = .ok y) :
    denote mul one sem y = denote mul one sem x := by
  obtain ⟨_, ls, _, _, rfl, _⟩ := addRandomLayers_eq_ok h
  have hxlen := isValid_values_length hv
  -- old layers: same layers, same values
  have hold : ∀ i ∈ List.range x.layers.length,
      layerBound i ((x.layers ++ ls).getD i default)
        (layerValues ⟨x.nQubits, x.layers ++ ls, x.values ++ List.replicate (totalParams ls) 0⟩ i) =
      layerBound i (x.layers.getD i default) (layerValues x i) := fun i hi => by
    have hi := List.mem_range.mp hi
    rw [layerValues_append_left (by omega) hi, List.getD_eq_getElem?_getD,
      List.getElem?_append_left hi, ← List.getD_eq_getElem?_getD]
  unfold denote
  rw [List.length_append, List.range_add, List.flatMap_append, List.foldl_append, flatMap_congr hold]
  -- new layers: all angles zero
  apply foldl_one mul one sem hone
  intro g hg
  simp only [List.mem_flatMap, List.mem_map, List.mem_range] at hg
  obtain ⟨_, ⟨j, _, rfl⟩, hg⟩ := hg
  rw [layerValues_append_right hxlen] at hg
  exact hsem g (layerBound_zero _ _ (fun v hmem => List.eq_of_mem_replicate (List.mem_of_mem_drop (List.mem_of_mem_take hmem))) g hg)

end QVerif.Genome
