import QVerif.Props.C01

/-!
# C02 — shorter makespan means lower energy; the ground state is optimal

Pure makespan objective (`share = 0`).  `lastEnds` are the end times of the last operation of every job of the
decoded schedule (start times read as `startOf`, see C01); the makespan of a feasible schedule is their maximum.
-/

namespace QVerif.Encoder

def lastEnds (ovs : List (List OpVar)) (bits : Bits) : List Nat :=
  ovs.filterMap (fun row => row.getLast?.map (fun x => startOf x bits + x.op.dur))

def makespanOf (ovs : List (List OpVar)) (bits : Bits) : Nat := (lastEnds ovs bits).foldl max 0

theorem endSum_eq (ovs : List (List OpVar)) (bits : Bits) :
    endSum ovs bits = ((lastEnds ovs bits).map (fun e => (ovs.length + 1) ^ e)).sum := by
  unfold endSum lastEnds
  generalize ovs.length = n
  induction ovs with
  | nil => rfl
  | cons r t ih =>
    simp only [List.map_cons, List.sum_cons, List.filterMap_cons]
    cases r.getLast? with
    | none => simp only [Option.map_none]; rw [ih]; omega
    | some x => simp only [Option.map_some, List.map_cons, List.sum_cons, ih]

theorem pow_sum_lt (n m : Nat) : ∀ (es : List Nat), es.length ≤ n → (∀ e ∈ es, e ≤ m) →
    (es.map (fun e => (n + 1) ^ e)).sum < (n + 1) ^ (m + 1) := by
  intro es hlen hle
  have h1 : (es.map (fun e => (n + 1) ^ e)).sum ≤ es.length * (n + 1) ^ m := by
    rw [← QVerif.DoubleCount.sumN_eq_sum_map]
    exact QVerif.DoubleCount.sumN_const_le _ _ es (fun e he => Nat.pow_le_pow_right (by omega) (hle e he))
  have h2 : es.length * (n + 1) ^ m ≤ n * (n + 1) ^ m := Nat.mul_le_mul_right _ hlen
  have h3 : n * (n + 1) ^ m < (n + 1) ^ (m + 1) := by
    rw [Nat.pow_succ, Nat.mul_comm ((n + 1) ^ m) (n + 1)]
    have : 0 < (n + 1) ^ m := Nat.pow_pos (by omega)
    exact Nat.mul_lt_mul_of_pos_right (by omega) this
  omega

theorem endSum_lt_of_makespan_lt (ovs : List (List OpVar)) (ba bb : Bits)
    (hlt : makespanOf ovs ba < makespanOf ovs bb) : endSum ovs ba < endSum ovs bb := by
  rw [endSum_eq, endSum_eq]
  unfold makespanOf at hlt
  obtain ⟨ha1, _, _⟩ := foldl_max_spec (lastEnds ovs ba) 0
  obtain ⟨_, _, hb3⟩ := foldl_max_spec (lastEnds ovs bb) 0
  -- why the base is `n + 1` for `n` jobs: the at most `n` end terms of `ba`, each ≤ (n+1)^(makespan ba), stay together below
  -- (n+1)^(makespan ba + 1) (`pow_sum_lt`), which the latest end of `bb` alone reaches
  have h1 := pow_sum_lt ovs.length ((lastEnds ovs ba).foldl max 0) (lastEnds ovs ba) (List.length_filterMap_le _ _) ha1
  rcases hb3 with h | h
  · omega
  · have h2 := le_sum_of_mem (fun e => (ovs.length + 1) ^ e) (lastEnds ovs bb) _ h
    have h3 : (ovs.length + 1) ^ ((lastEnds ovs ba).foldl max 0 + 1) ≤ (ovs.length + 1) ^ ((lastEnds ovs bb).foldl max 0) :=
      Nat.pow_le_pow_right (by omega) (by omega)
    omega

structure FeasibleAt (inst : EInst) (vars : List (List Var)) (bits : Bits) : Prop where
  len : bits.length = nQubits vars
  dec : ∀ x ∈ (opVars inst vars).flatten, (decodeVar x.var bits).isSome = true
  noPrec : nPrecViolated (opVars inst vars) bits = 0
  noOvl : nOvlViolated (opVars inst vars) bits = 0

theorem energy_feasible_makespan (pen : Penalties) (hs : pen.share = 0) (inst : EInst) (limit : Nat) (vars : List (List Var))
    (h : prepare inst limit = .ok vars) (bits : Bits) (hf : FeasibleAt inst vars bits) :
    energyOf pen inst vars limit bits =
      pen.opt * ((1 / ((maxOptNat (opVars inst vars) limit : Nat) : Rat)) * ((endSum (opVars inst vars) bits : Nat) : Rat)) := by
  obtain ⟨he, _, _⟩ := energy_decoded pen inst limit vars h bits hf.len hf.dec
  have hd := allDecoded_of_isSome inst limit vars h bits hf.len hf.dec
  rw [he, hf.noPrec, hf.noOvl, hs, makespanTerm_decoded _ limit bits hd]
  grind

/-- **Shorter makespan means strictly lower energy** (pure makespan objective, at least one job). -/
theorem makespan_orders_energy (pen : Penalties) (hr : Regime pen) (hs : pen.share = 0) (inst : EInst) (limit : Nat)
    (vars : List (List Var)) (h : prepare inst limit = .ok vars) (ba bb : Bits)
    (hfa : FeasibleAt inst vars ba) (hfb : FeasibleAt inst vars bb) (hn : 1 ≤ (opVars inst vars).length)
    (hlt : makespanOf (opVars inst vars) ba < makespanOf (opVars inst vars) bb) :
    energyOf pen inst vars limit ba < energyOf pen inst vars limit bb := by
  rw [energy_feasible_makespan pen hs inst limit vars h ba hfa, energy_feasible_makespan pen hs inst limit vars h bb hfb]
  have hlt' := endSum_lt_of_makespan_lt (opVars inst vars) ba bb hlt
  have c : ((endSum (opVars inst vars) ba : Nat) : Rat) < ((endSum (opVars inst vars) bb : Nat) : Rat) :=
    Rat.natCast_lt_natCast.mpr hlt'
  have m1 := Rat.mul_lt_mul_of_pos_left c (one_div_natCast_pos (maxOptNat_pos (opVars inst vars) limit hn))
  exact Rat.mul_lt_mul_of_pos_left m1 hr.opt_pos

theorem infeasible_of_not_feasible {inst : EInst} {vars : List (List Var)} {g : Bits} (hg : g.length = nQubits vars)
    (hnf : ¬ FeasibleAt inst vars g) :
    (∃ x ∈ (opVars inst vars).flatten, decodeVar x.var g = none) ∨
      ((∀ x ∈ (opVars inst vars).flatten, (decodeVar x.var g).isSome = true) ∧
        1 ≤ nPrecViolated (opVars inst vars) g + nOvlViolated (opVars inst vars) g) := by
  by_cases hdec : ∀ x ∈ (opVars inst vars).flatten, (decodeVar x.var g).isSome = true
  · refine Or.inr ⟨hdec, ?_⟩
    false_or_by_contra
    exact hnf ⟨hg, hdec, by omega, by omega⟩
  · refine Or.inl ?_
    false_or_by_contra
    rename_i hno
    refine hdec fun x hx => ?_
    cases hd : decodeVar x.var g with
    | some s => rfl
    | none => exact absurd ⟨x, hx, hd⟩ hno

/-- **The ground state is an optimal schedule.** For the pure makespan objective, at least one job and `W` strictly below both
constraint penalties: if some feasible state exists, every minimum-energy bitstring (of
the right length) decodes to a feasible schedule whose makespan is no larger than that of any feasible state.
(With `decode_complete_vars` / `feasible_in_window` of C15 — every feasible schedule within the limit is decoded
from some bitstring — this is the optimum of the job-shop instance.) -/
theorem ground_state_optimal (pen : Penalties) (hr : Regime pen) (hs : pen.share = 0)
    (hstrict : pen.opt < pen.prec ∧ pen.opt < pen.ovl) (inst : EInst) (limit : Nat)
    (vars : List (List Var)) (h : prepare inst limit = .ok vars) (hn : 1 ≤ (opVars inst vars).length)
    (g : Bits) (hg : g.length = nQubits vars)
    (hmin : ∀ b : Bits, b.length = nQubits vars → energyOf pen inst vars limit g ≤ energyOf pen inst vars limit b)
    (hex : ∃ b, FeasibleAt inst vars b) :
    FeasibleAt inst vars g ∧ ∀ b, FeasibleAt inst vars b → makespanOf (opVars inst vars) g ≤ makespanOf (opVars inst vars) b := by
  obtain ⟨b0, hb0⟩ := hex
  have hfeas : FeasibleAt inst vars g := by
    -- otherwise g would lie strictly above `W`, and the feasible b0 at or below it
    false_or_by_contra
    rename_i hnf
    have := infeasible_above_opt pen hr inst limit vars h g hg (infeasible_of_not_feasible hg hnf) (Or.inl hstrict)
    have := (energy_feasible pen hr inst limit vars h b0 hb0.len hb0.dec hb0.noPrec hb0.noOvl).2
    have := hmin b0 hb0.len
    grind
  refine ⟨hfeas, ?_⟩
  intro b hb
  false_or_by_contra
  have := makespan_orders_energy pen hr hs inst limit vars h b g hb hfeas hn (by omega)
  have := hmin b hb.len
  grind

end QVerif.Encoder
