import QVerif.Lemmas.Cvar

/-!
# C14 — expectation and CVaR aggregation match their definition

`CVaR_α(d)` is defined independently of the code as the minimum, over all ways `q` of picking mass `α` out of
the distribution (`0 ≤ qᵢ ≤ pᵢ`, `Σ qᵢ = α`), of `Σ qᵢ·vᵢ / α` — "the mean of the objective over the lowest-valued
α fraction of the probability mass".  `IsFillValue l α x` says `x = Σ qᵢ·vᵢ` for such a `q`; it does not depend on
the order of `l` (`isFillValue_perm`).
-/

namespace QVerif.Cvar

/-- **The exact aggregation is the definition.** For a distribution with non-negative probabilities and
`0 ≤ α ≤ total mass`, the greedy fill of the value-sorted distribution (a) is a feasible way of picking mass `α`
and (b) is no more expensive than any other — so `cvarExact l α` is the minimum the definition asks for, whatever
the dict order and however ties are ordered. -/
theorem cvar_is_min (l : Dist) (alpha : Rat) (hn : NonnegProbs l) (h0 : 0 ≤ alpha) (h1 : alpha ≤ mass l) :
    IsFillValue l alpha (greedy (sortByValue l) alpha) ∧
    ∀ x, IsFillValue l alpha x → greedy (sortByValue l) alpha ≤ x := by
  have hperm := sortByValue_perm l
  constructor
  · exact isFillValue_perm hperm _ _
      (greedy_isFillValue _ _ (forall_mem_sortByValue.mpr hn) h0 (by rw [mass_perm hperm]; exact h1))
  · intro x hx
    obtain ⟨qs, hf, rfl, rfl⟩ := isFillValue_perm hperm.symm alpha x hx
    exact greedy_le_fill (sortByValue l) qs (sortByValue_sorted l hn) hf

/-- tie order and dict order are irrelevant: any value-sorted arrangement of the same outcomes gives the
same exact aggregate -/
theorem cvar_order_irrelevant (l l' : Dist) (alpha : Rat) (hp : l.Perm l') (hn : NonnegProbs l)
    (h0 : 0 ≤ alpha) (h1 : alpha ≤ mass l) :
    greedy (sortByValue l') alpha = greedy (sortByValue l) alpha := by
  have hn' : NonnegProbs l' := fun x hx => hn x (hp.mem_iff.mpr hx)
  have hm : mass l' = mass l := (mass_perm hp).symm
  obtain ⟨a1, a2⟩ := cvar_is_min l alpha hn h0 h1
  obtain ⟨b1, b2⟩ := cvar_is_min l' alpha hn' h0 (by rw [hm]; exact h1)
  have h12 := a2 _ (isFillValue_perm hp.symm _ _ b1)
  have h21 := b2 _ (isFillValue_perm hp _ _ a1)
  exact Rat.le_antisymm h21 h12

/-- `α = 1` (the whole mass): the plain expectation -/
theorem cvar_one (l : Dist) (hn : NonnegProbs l) (hmass : mass l = 1) :
    cvarExact l 1 = plainExpectation l := by
  rw [cvarExact, greedy_sort_one l hn hmass]
  grind

/-- the aggregate is non-decreasing in `α` -/
theorem cvar_mono (l : Dist) (alpha beta : Rat) (hn : NonnegProbs l) (h0 : 0 < alpha) (hab : alpha ≤ beta)
    (h1 : beta ≤ mass l) : cvarExact l alpha ≤ cvarExact l beta := by
  have hb0 : 0 < beta := by grind
  obtain ⟨⟨qs, hf, hs, hv⟩, _⟩ := cvar_is_min l beta hn (Rat.le_of_lt hb0) h1
  obtain ⟨_, hmin⟩ := cvar_is_min l alpha hn (Rat.le_of_lt h0) (Rat.le_trans hab h1)
  -- scale the optimal fill for β down to mass α
  have hc0 : 0 ≤ alpha / beta := (le_div_iff hb0).mpr (by rw [Rat.zero_mul]; exact Rat.le_of_lt h0)
  have hc1 : alpha / beta ≤ 1 := (div_le_iff hb0).mpr (by rw [Rat.one_mul]; exact hab)
  have hcb : alpha / beta * beta = alpha := Rat.div_mul_cancel (Rat.ne_of_gt hb0)
  have hle := hmin _ ⟨qs.map (alpha / beta * ·), feas_scale _ hc0 hc1 l qs hf, by rw [qsum_scale, hs, hcb],
    by rw [fillVal_scale, hv]⟩
  -- greedy α ≤ (α/β)·greedy β  ⇒  greedy α / α ≤ greedy β / β
  rw [cvarExact, cvarExact, div_le_iff h0]
  rw [Rat.div_def] at hle ⊢
  grind

/-- lower bound: never below the smallest sampled objective value -/
theorem cvar_ge_min (l : Dist) (alpha m : Rat) (hn : NonnegProbs l) (h0 : 0 < alpha) (h1 : alpha ≤ mass l)
    (hm : ∀ x ∈ l, m ≤ x.2) : m ≤ cvarExact l alpha := by
  obtain ⟨⟨qs, hf, hs, hv⟩, _⟩ := cvar_is_min l alpha hn (Rat.le_of_lt h0) h1
  rw [cvarExact, le_div_iff h0, ← hv, ← hs, Rat.mul_comm]
  exact fillVal_ge m l qs hm hf

/-- upper bound: never above the plain expectation -/
theorem cvar_le_expectation (l : Dist) (alpha : Rat) (hn : NonnegProbs l) (hmass : mass l = 1)
    (h0 : 0 < alpha) (h1 : alpha ≤ 1) : cvarExact l alpha ≤ plainExpectation l := by
  rw [← cvar_one l hn hmass]
  exact cvar_mono l alpha 1 hn h0 h1 (by rw [hmass]; grind)

theorem tol_nonneg (alpha : Rat) : 0 ≤ atol + rtol * rabs alpha := by
  have h1 : (0 : Rat) ≤ atol := by decide +kernel
  have h2 : (0 : Rat) ≤ rtol := by decide +kernel
  have := Rat.mul_nonneg h2 (rabs_nonneg alpha)
  grind

theorem greedy_lipschitz (M : Rat) (hM0 : 0 ≤ M) : ∀ (l : Dist) (a b : Rat), NonnegProbs l → (∀ x ∈ l, rabs x.2 ≤ M) →
    0 ≤ a → a ≤ b → rabs (greedy l b - greedy l a) ≤ (b - a) * M
  | [], a, b, _, _, _, hab => by
      have := Rat.mul_nonneg (by grind : 0 ≤ b - a) hM0
      simp only [greedy, rabs_le]; grind
  | (p, v) :: t, a, b, hn, hM, ha, hab => by
      obtain ⟨hp, hnt⟩ := nonneg_cons.mp hn
      obtain ⟨hv, hMt⟩ := List.forall_mem_cons.mp hM
      obtain ⟨hq, hr0, hr⟩ := fill_step_mono p hab
      have ih := greedy_lipschitz M hM0 t (a - min a p) (b - min b p) hnt hMt hr0 hr
      simp only [greedy, rabs_le] at hv ih ⊢
      have h1 := Rat.mul_le_mul_of_nonneg_left hv.1 hq
      have h2 := Rat.mul_le_mul_of_nonneg_left hv.2 hq
      grind

theorem greedy_abs_le (M : Rat) (l : Dist) (a : Rat) (hn : NonnegProbs l) (hM : ∀ x ∈ l, rabs x.2 ≤ M) (ha : 0 ≤ a)
    (hM0 : 0 ≤ M) : rabs (greedy l a) ≤ a * M := by
  have h := greedy_lipschitz M hM0 l 0 a hn hM Rat.le_refl ha
  rw [greedy_zero l hn] at h
  grind

/-- **The loop is the exact fill, cut short.**  It takes what `greedy` takes, entry by entry; the `isclose` exit only
drops the fill of the remaining entries `t` with the mass `r` still missing, and `r` is within the tolerance. -/
theorem loop_eq_greedy (alpha : Rat) : ∀ (l : Dist) (g e : Rat), g ≤ alpha →
    ∃ t r, (∀ x ∈ t, x ∈ l) ∧ 0 ≤ r ∧ r ≤ atol + rtol * rabs alpha ∧
      loop alpha l g e = e + greedy l (alpha - g) - greedy t r
  | [], g, e, _ => ⟨[], 0, fun _ h => h, Rat.le_refl, tol_nonneg alpha, by simp only [loop, greedy]; grind⟩
  | (p, v) :: t, g, e, hg => by
      simp only [loop, greedy]
      have hr : 0 ≤ alpha - (g + min (alpha - g) p) := by grind
      have e2 : alpha - g - min (alpha - g) p = alpha - (g + min (alpha - g) p) := by grind
      rw [e2]
      split
      · rename_i hc
        simp only [isclose, decide_eq_true_eq, rabs_le] at hc
        exact ⟨t, _, fun x hx => List.mem_cons_of_mem _ hx, hr, by grind, by grind⟩
      · obtain ⟨t', r, hsub, h0, h1, heq⟩ := loop_eq_greedy alpha t (g + min (alpha - g) p) (e + min (alpha - g) p * v) (by grind)
        exact ⟨t', r, fun x hx => List.mem_cons_of_mem _ (hsub x hx), h0, h1, by rw [heq]; grind⟩

theorem loop_zero_close (alpha M : Rat) (hM : 0 ≤ M) (l : Dist) (hn : NonnegProbs l) (hb : ∀ x ∈ l, rabs x.2 ≤ M)
    (h0 : 0 ≤ alpha) : rabs (loop alpha l 0 0 - greedy l alpha) ≤ (atol + rtol * rabs alpha) * M := by
  obtain ⟨t, r, hsub, hr0, hr, heq⟩ := loop_eq_greedy alpha l 0 0 h0
  have habs := greedy_abs_le M t r (fun x hx => hn x (hsub x hx)) (fun x hx => hb x (hsub x hx)) hr0 hM
  have := Rat.mul_le_mul_of_nonneg_right hr hM
  rw [Rat.sub_eq_add_neg alpha, Rat.neg_zero, Rat.add_zero, Rat.zero_add] at heq
  rw [heq, rabs_le] at *
  grind

/-- **Tolerance bound (sorted path)**: for `α` not within `isclose` of 1, `_get_expectation` returns a value within
`(1e-8 + 1e-5·α)·max|v| / α` of the exact CVaR, whether its argument was sorted beforehand or not (both public functions
return that value for such `α`, by unfolding and `operator_eq_bitstring`). -/
theorem tolerance_bound (l : Dist) (alpha M : Rat) (hn : NonnegProbs l) (hM0 : 0 ≤ M) (hM : ∀ x ∈ l, rabs x.2 ≤ M)
    (h0 : 0 < alpha) (hfar : isclose alpha 1 = false) :
    rabs (getExpectation l alpha - cvarExact l alpha) ≤ (atol + rtol * rabs alpha) * M / alpha ∧
    getExpectation (sortByValue l) alpha = getExpectation l alpha := by
  simp only [getExpectation, cvarExact, hfar, Bool.not_false, ↓reduceIte, sortByValue_idem, and_true]
  exact rabs_div_sub_div_le h0 (loop_zero_close alpha M hM0 _ (forall_mem_sortByValue.mpr hn)
    (forall_mem_sortByValue.mpr hM) (Rat.le_of_lt h0))

/-- **operator-based = bitstring-function-based** aggregation when the function is the operator's diagonal
(`α` not within `isclose` of 1: exactly equal) -/
theorem operator_eq_bitstring (l : Dist) (alpha : Rat) (hfar : isclose alpha 1 = false) :
    expectationWithOperator l alpha = expectationWithBitstrings l alpha := by
  unfold expectationWithOperator expectationWithBitstrings
  split
  · rfl
  · simp only [hfar, Bool.false_eq_true, ↓reduceIte]
    unfold getExpectation
    simp only [hfar, Bool.not_false, ↓reduceIte, sortByValue_idem]

/-- out-of-range `α` is rejected by both functions, everything else is accepted -/
theorem alpha_range (l : Dist) (alpha : Rat) :
    (expectationWithOperator l alpha = .error .alphaOutOfRange ↔ (alpha ≤ 0 ∨ 1 < alpha)) ∧
    (expectationWithBitstrings l alpha = .error .alphaOutOfRange ↔ (alpha ≤ 0 ∨ 1 < alpha)) := by
  unfold expectationWithOperator expectationWithBitstrings
  by_cases h : alpha ≤ 0 ∨ 1 < alpha
  · -- the range test comes first in both functions
    simp only [h, ↓reduceIte, and_self]
  · -- and every later branch returns a value
    simp only [h, ↓reduceIte, iff_false, reduceCtorEq, and_true]
    split <;> exact nofun

/-! ## The branch `isclose(alpha, 1)` (α = 1 and α within 1e-5 of 1) -/

/-- **α = 1, operator path**: the plain expectation, exactly -/
theorem operator_alpha_one (l : Dist) : expectationWithOperator l 1 = .ok (plainExpectation l) := by
  rw [expectationWithOperator, if_neg (by decide +kernel), if_pos (by decide +kernel)]

/-- **α = 1, bitstring-function path**: the loop runs in dictionary order and stops once the gathered mass is within
`isclose` of 1; the result is within `(1e-8 + 1e-5)·max|v|` of the plain expectation -/
theorem bitstring_alpha_one (l : Dist) (M : Rat) (hn : NonnegProbs l) (hmass : mass l = 1) (hM0 : 0 ≤ M)
    (hM : ∀ x ∈ l, rabs x.2 ≤ M) : rabs (getExpectation l 1 - plainExpectation l) ≤ (atol + rtol) * M := by
  have h := loop_zero_close 1 M hM0 l hn hM (by decide +kernel)
  rw [greedy_one l hn hmass] at h
  have h2 : isclose 1 1 = true := by decide +kernel
  have e2 : rabs (1 : Rat) = 1 := by decide +kernel
  have e3 : (1 : Rat)⁻¹ = 1 := by decide +kernel
  simp only [getExpectation, h2, Bool.not_true, Bool.false_eq_true, ↓reduceIte, Rat.div_def, e3, Rat.mul_one]
  rwa [e2, Rat.mul_one] at h

/-- **α within `isclose` of 1, operator path**: the plain expectation is returned; it differs from the exact CVaR at α
by at most `2·(1 − α)·max|v|` (≤ 2.002e-5·max|v|) -/
theorem near_one_operator (l : Dist) (alpha M : Rat) (hn : NonnegProbs l) (hmass : mass l = 1) (hM0 : 0 ≤ M)
    (hM : ∀ x ∈ l, rabs x.2 ≤ M) (h0 : 0 < alpha) (h1 : alpha ≤ 1) (hclose : isclose alpha 1 = true) :
    expectationWithOperator l alpha = .ok (plainExpectation l) ∧
    rabs (plainExpectation l - cvarExact l alpha) ≤ 2 * (1 - alpha) * M := by
  constructor
  · have : ¬ (alpha ≤ 0 ∨ 1 < alpha) := by grind
    simp [expectationWithOperator, this, hclose]
  · have ha := Rat.le_of_lt h0
    have hn' : NonnegProbs (sortByValue l) := forall_mem_sortByValue.mpr hn
    have hM' := forall_mem_sortByValue.mpr hM
    have hlip := greedy_lipschitz M hM0 (sortByValue l) alpha 1 hn' hM' ha h1
    rw [greedy_sort_one l hn hmass] at hlip
    have habs := greedy_abs_le M (sortByValue l) alpha hn' hM' ha hM0
    -- with Q = G/α: |Q| ≤ M, and P − Q = (P − Q·α) − Q·(1 − α)
    have hQ : cvarExact l alpha * alpha = greedy (sortByValue l) alpha := Rat.div_mul_cancel (Rat.ne_of_gt h0)
    rw [← hQ] at hlip habs
    generalize cvarExact l alpha = Q at *
    rw [rabs_le] at hlip habs ⊢
    have q1 : -M ≤ Q := Rat.le_of_mul_le_mul_right (by grind) h0
    have q2 : Q ≤ M := Rat.le_of_mul_le_mul_right (by grind) h0
    have p1 := Rat.mul_le_mul_of_nonneg_right q1 (by grind : 0 ≤ 1 - alpha)
    have p2 := Rat.mul_le_mul_of_nonneg_right q2 (by grind : 0 ≤ 1 - alpha)
    grind

/-- **α within `isclose` of 1 (α < 1 allowed), bitstring-function path**: the list is *not* sorted (the `sorted` of `_get_expectation` stands under `if not isclose(alpha, 1)`), the
loop gathers mass `α` in dictionary order and stops within `isclose` of `α`.  Because at most `1 − α` of the mass is left out
whatever the order, the returned value is still within `((1e-8 + 1e-5·α) + 2·(1 − α))·max|v| / α` of the exact CVaR — with
`1 − α ≤ 1.001e-5` that is a relative resolution of about 3e-5·max|v|.  This closes the last branch of the two public
functions (the other three are `tolerance_bound`, `near_one_operator`, `bitstring_alpha_one`). -/
theorem near_one_bitstring (l : Dist) (alpha M : Rat) (hn : NonnegProbs l) (hmass : mass l = 1) (hM0 : 0 ≤ M)
    (hM : ∀ x ∈ l, rabs x.2 ≤ M) (h0 : 0 < alpha) (h1 : alpha ≤ 1) (hclose : isclose alpha 1 = true) :
    expectationWithBitstrings l alpha = .ok (getExpectation l alpha) ∧
    rabs (getExpectation l alpha - cvarExact l alpha) ≤ ((atol + rtol * rabs alpha) + 2 * (1 - alpha)) * M / alpha := by
  constructor
  · have : ¬ (alpha ≤ 0 ∨ 1 < alpha) := by grind
    simp [expectationWithBitstrings, this]
  · simp only [getExpectation, cvarExact, hclose, Bool.not_true, Bool.false_eq_true, ↓reduceIte]
    apply rabs_div_sub_div_le h0
    have ha := Rat.le_of_lt h0
    have hn' : NonnegProbs (sortByValue l) := forall_mem_sortByValue.mpr hn
    -- the loop against the fill in dictionary order; both fills are within (1 − α)·M of the plain expectation
    have hL := loop_zero_close alpha M hM0 l hn hM ha
    have hlip := greedy_lipschitz M hM0 l alpha 1 hn hM ha h1
    have hlips := greedy_lipschitz M hM0 (sortByValue l) alpha 1 hn' (forall_mem_sortByValue.mpr hM) ha h1
    rw [greedy_one l hn hmass] at hlip
    rw [greedy_sort_one l hn hmass] at hlips
    rw [rabs_le] at hL hlip hlips ⊢
    grind

/-- 4 shots: values −2 (1 shot), 0 (2 shots), 3 (1 shot) -/
def exDist : Dist := [(1/2, 0), (1/4, 3), (1/4, -2)]

-- evaluated (`List.mergeSort` is defined by well-founded recursion and does not reduce in the kernel)
#guard exDist.all (fun x => decide (0 ≤ x.1)) && decide (mass exDist = 1)
#guard cvarExact exDist (1/2) = -1          -- (¼·(−2) + ¼·0) / ½
#guard cvarExact exDist (1/4) = -2          -- mass exactly at the boundary
#guard cvarExact exDist 1 = 1/4
#guard (match expectationWithBitstrings exDist (1/2) with | .ok v => decide (v = -1) | _ => false)
#guard (match expectationWithOperator exDist (1/2) with | .ok v => decide (v = -1) | _ => false)
#guard (match expectationWithOperator exDist 1 with | .ok v => decide (v = 1/4) | _ => false)
#guard isclose (999999/1000000) 1 && decide ((999999/1000000 : Rat) < 1)   -- an α strictly inside (1 − 1e-5, 1) meets `near_one_*`
#guard (match expectationWithBitstrings exDist (999999/1000000) with | .ok v => decide (rabs (v - cvarExact exDist (999999/1000000)) ≤ 1/100000) | _ => false)
#guard (match expectationWithOperator exDist 0 with | .error .alphaOutOfRange => true | _ => false)

end QVerif.Cvar
