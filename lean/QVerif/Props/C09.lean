import QVerif.Lemmas.RunnerLive

/-!
# C09 — a failed job reaches its callers; the wrapper stays usable
-/

namespace Runner

/-- **C09 (delivery).** A call about to return holds the outcome of a logged `f` call whose batch contained its pubs:
it raises `e` if that `f` call raised `e`, and returns normally if that call returned (`returned_is_own`). -/
theorem C09_failure_reaches_members (th0 : List TS) (h0 : ∀ x ∈ th0, x.loc = .idle) {s : St} (hr : Reachable th0 s)
    (t : Nat) (ht : (s.get t).loc = .r) :
    ∃ b o, (b, o) ∈ s.flog ∧ (s.get t).loc_res = some o ∧ sliceOk b (s.get t).pubs (s.get t).idx :=
  returned_is_own th0 h0 hr t ht

/-- **C09 (reset).** In every quiescent reachable state all shared fields have their initial values, whatever
failed before; so the next batch is served exactly like the first. -/
theorem C09_reset_after_failure (th0 : List TS) (h0 : ∀ x ∈ th0, x.loc = .idle) {s : St} (hr : Reachable th0 s)
    (hq : ∀ t, (s.get t).loc = .idle) :
    s.E = none ∧ s.V = none ∧ s.icw = [] ∧ s.ecw = [] ∧ s.tc = 0 ∧ s.ec = 0 ∧ s.g = 0 ∧ s.blen = 0 ∧ s.batch = [] ∧
    s.result = none ∧ s.exn = none :=
  quiescent_reset th0 h0 hr hq

/-- **C09 (nobody hangs).** `can_always_complete` quantifies over failing outcomes too. -/
theorem C09_no_hang_after_failure (th0 : List TS) (h0 : ∀ x ∈ th0, x.loc = .idle) {s : St} (hr : Reachable th0 s) :
    ∃ s', Run s s' ∧ Quiescent s' :=
  can_always_complete th0 h0 hr

end Runner
