import QVerif.Lemmas.Codec

/-!
# C18 — JSON round trips preserve every serialisable object

`dec hook (enc x) = .ok (embedding of x)` for every object `x` of every serialisable class, for each of the four
encoder / decoder pairs.  `dec hook` is `json.loads(·, object_hook=hook)` on the tree `json.dumps(·, cls=Encoder)` wrote.

The round trips of the dict-shaped classes go the same way (`jresult_roundtrip` says where it departs; a bare string is one `simp`).  (1) Per field a `Reads` fact: a `dec` equation `dᵢ` and a cast equation `cᵢ`.  (2) `simp only
[enc…, dec, decFields, dᵢ]` leaves `hook D` for the written-out dict `D`; where the hook is only known to extend the class's home hook,
`hext` routes it there by `D`'s first key.  (3) `hook_of_parse` runs the parse function on a variable dict, and `simp` with the `cᵢ`
finishes.
-/

namespace QVerif.Codec
open QVerif.Genome (Gate Layer)
open QVerif.Jssp (Operation Job Instance SchedOp Schedule)

-- hooks are evaluated on written-out dicts by these equations: keys compared with `=`, which `String.reduceEq` decides
attribute [local simp] has_nil has_cons hasAny_nil hasAny_cons get_nil get_cons
  layerKeys indivKeys popOnlyKeys popKeys evalKeys resultKeys

/-! ## `EVQECircuitLayerEncoder` / `EVQECircuitLayerDecoder`, and every decoder built on it -/

theorem gate_roundtrip_of {hook : Hook} (hext : Extends hook hookLayer layerKeys) (g : Gate) :
    dec hook (encGate g) = .ok (.gate g) := by
  cases g
  all_goals
    simp only [encGate, dec, decFields, jnat]
    rw [hext _ (hasAny_head (by simp) _ _)]
    refine hook_of_parse (parse := parseGate) (by simp [hookLayer]) fun _ hg => ?_
    simp [parseGate, getNat, hg, asNat]

theorem layer_roundtrip_of {hook : Hook} (hext : Extends hook hookLayer layerKeys) (l : Layer) (hv : l.isValid = true) :
    dec hook (encLayer l) = .ok (.layer l) := by
  obtain ⟨vs, d, c⟩ := Reads.elems (cast := asGate) fun g (_ : g ∈ l.gates) => ⟨_, gate_roundtrip_of hext g, rfl⟩
  simp only [encLayer, dec, decFields, jnat, d]
  rw [hext _ (hasAny_head (by simp) _ _)]
  refine hook_of_parse (parse := parseLayer) (by simp [hookLayer]) fun _ hg => ?_
  simp [parseLayer, getNat, hg, asNat, asSeq, c, mkLayer, hv]

theorem gate_roundtrip_layerCodec (g : Gate) : dec hookLayer (encGate g) = .ok (.gate g) :=
  gate_roundtrip_of (.refl _ _) g

theorem layer_roundtrip_layerCodec (l : Layer) (hv : l.isValid = true) : dec hookLayer (encLayer l) = .ok (.layer l) :=
  layer_roundtrip_of (.refl _ _) l hv

/-! ## `EVQEPopulationJSONEncoder` / `EVQEPopulationJSONDecoder`, and every decoder built on it -/

section pop
variable (keq : CIndiv → CIndiv → Bool)

theorem CIndiv.layers_valid (x : CIndiv) (hv : x.isValid = true) : ∀ l ∈ x.layers, l.isValid = true := by
  intro l hl
  simp only [CIndiv.isValid, Bool.and_eq_true, List.all_eq_true] at hv
  exact (hv.1.2 l hl).1

theorem indiv_roundtrip_of {hook : Hook} (hext : Extends hook (hookPop keq) popKeys) (x : CIndiv) (hv : x.isValid = true) :
    dec hook (encIndiv x) = .ok (.indiv x) := by
  obtain ⟨vl, dl, cl⟩ := Reads.elems (cast := asLayer) fun l (hl : l ∈ x.layers) =>
    ⟨_, layer_roundtrip_of hext.toLayer l (CIndiv.layers_valid x hv l hl), rfl⟩
  obtain ⟨vp, dp, cp⟩ := Reads.elems fun n (_ : n ∈ x.params) => Reads.num hook n
  simp only [encIndiv, dec, decFields, jnat, dl, dp]
  rw [hext _ (hasAny_head (by simp) _ _)]
  refine hook_of_parse (parse := parseIndiv) (by simp [hookPop]) fun _ hg => ?_
  simp [parseIndiv, getNat, hg, asNat, asSeq, cl, cp, mkIndiv, hv]

/-- what every existing `EVQEPopulation` satisfies: its individuals passed their constructor's validity check, and the
two dicts have pairwise different keys -/
structure Pop.WF (p : Pop) : Prop where
  individuals : ∀ x ∈ p.individuals, x.isValid = true
  reps : ∀ r, p.reps = some r → ∀ x ∈ r, x.isValid = true
  members : ∀ m, p.members = some m → (∀ e ∈ m, e.1.isValid = true) ∧ DistinctKeys keq m
  membership : ∀ m, p.membership = some m → (∀ e ∈ m, e.2.isValid = true) ∧ DistinctKeys (· == ·) m

theorem pop_roundtrip_of {hook : Hook} (hext : Extends hook (hookPop keq) popKeys) (p : Pop) (hw : p.WF keq) :
    dec hook (encPop p) = .ok (.pop p) := by
  have hI : ∀ x : CIndiv, x.isValid = true → Reads hook asIndiv (encIndiv x) x :=
    fun x hv => ⟨_, indiv_roundtrip_of keq hext x hv, rfl⟩
  obtain ⟨v1, d1, c1⟩ := Reads.elems fun x hx => hI x (hw.individuals x hx)
  obtain ⟨v2, d2, c2⟩ := Reads.opt (o := p.reps) rfl fun r hr => Reads.list fun x hx => hI x (hw.reps r hr x hx)
  -- the entry casts of this codec (`asMemberEntry`, `asMembershipEntry`, `asQuasiEntry`, `asAuxEntry`) are separate definitions of
  -- the model, so each kind of entry is read where it occurs
  obtain ⟨v3, d3, c3⟩ := Reads.opt (hook := hook) (o := p.members) rfl fun m hm => Reads.seq (cast := asMemberEntry)
    (enc := fun e => .arr [encIndiv e.1, .arr (e.2.map jint)]) fun e he => by
      obtain ⟨v, d, c⟩ := hI e.1 ((hw.members m hm).1 e he)
      obtain ⟨w, d', c'⟩ := Reads.elems fun i (_ : i ∈ e.2) => Reads.int hook i
      exact ⟨.list [v, .list w], by simp [dec, decList, d, d'], by simp [asMemberEntry, asPair, c, asList, c']⟩
  obtain ⟨v4, d4, c4⟩ := Reads.opt (hook := hook) (o := p.membership) rfl fun m hm => Reads.seq (cast := asMembershipEntry)
    (enc := fun e => .arr [jint e.1, encIndiv e.2]) fun e he => by
      obtain ⟨v, d, c⟩ := hI e.2 ((hw.membership m hm).1 e he)
      exact ⟨.list [.num (.int e.1), v], by simp [dec, decList, d, jint], by simp [asMembershipEntry, asPair, asInt, c]⟩
  simp only [encPop, dec, decFields, d1, d2, d3, d4]
  rw [hext _ (hasAny_head (by simp) _ _)]
  refine hook_of_parse (parse := parsePop keq) (by simp [hookPop]) fun _ hg => ?_
  simp [parsePop, hg, seqOf, asSeq, c1, c2, c3, c4, map_pyDict_of_distinct fun m hm => (hw.members m hm).2,
    map_pyDict_of_distinct fun m hm => (hw.membership m hm).2]

theorem gate_roundtrip_popCodec (g : Gate) : dec (hookPop keq) (encGate g) = .ok (.gate g) :=
  gate_roundtrip_of (hookPop_extends keq) g

theorem layer_roundtrip_popCodec (l : Layer) (hv : l.isValid = true) : dec (hookPop keq) (encLayer l) = .ok (.layer l) :=
  layer_roundtrip_of (hookPop_extends keq) l hv

theorem indiv_roundtrip_popCodec (x : CIndiv) (hv : x.isValid = true) : dec (hookPop keq) (encIndiv x) = .ok (.indiv x) :=
  indiv_roundtrip_of keq (.refl _ _) x hv

theorem pop_roundtrip_popCodec (p : Pop) (hw : p.WF keq) : dec (hookPop keq) (encPop p) = .ok (.pop p) :=
  pop_roundtrip_of keq (.refl _ _) p hw

/-! ## `EvolvingAnsatzMinimumEigensolverResultJSONEncoder` / `…Decoder` -/

theorem gate_roundtrip (g : Gate) : dec (hookBase keq) (encGate g) = .ok (.gate g) :=
  gate_roundtrip_of (hookBase_extends keq).toLayer g

theorem layer_roundtrip (l : Layer) (hv : l.isValid = true) : dec (hookBase keq) (encLayer l) = .ok (.layer l) :=
  layer_roundtrip_of (hookBase_extends keq).toLayer l hv

theorem indiv_roundtrip (x : CIndiv) (hv : x.isValid = true) : dec (hookBase keq) (encIndiv x) = .ok (.indiv x) :=
  indiv_roundtrip_of keq (hookBase_extends keq) x hv

theorem pop_roundtrip (p : Pop) (hw : p.WF keq) : dec (hookBase keq) (encPop p) = .ok (.pop p) :=
  pop_roundtrip_of keq (hookBase_extends keq) p hw

theorem scalar_roundtrip (s : Scalar) : Reads (hookBase keq) asScalar (encScalar s) s := by
  cases s with
  | real n => exact ⟨_, rfl, rfl⟩
  | complex re im =>
    refine ⟨.complex re im, ?_, rfl⟩
    simp only [encScalar, dec, decFields]
    refine hook_of_parse (parse := parseComplex) (by simp [hookBase]) fun _ hg => ?_
    simp [parseComplex, hg, asNum]

/-- `QuasiDistribution`: the outcome keys of a distribution are pairwise different -/
theorem quasi_roundtrip (q : Quasi) (hd : DistinctKeys (· == ·) q.data) : dec (hookBase keq) (encQuasi q) = .ok (.quasi q) := by
  obtain ⟨v1, d1, c1⟩ := Reads.elems (hook := hookBase keq) (cast := asQuasiEntry) (enc := fun e => .arr [jint e.1, .num e.2])
    fun e (_ : e ∈ q.data) => ⟨.list [.num (.int e.1), .num e.2], rfl, rfl⟩
  obtain ⟨v2, d2, c2⟩ := Reads.opt (o := q.shots) rfl fun n _ => Reads.num (hookBase keq) n
  obtain ⟨v3, d3, c3⟩ := Reads.opt (o := q.stddev) rfl fun n _ => Reads.num (hookBase keq) n
  simp only [encQuasi, dec, decFields, d1, d2, d3]
  refine hook_of_parse (parse := parseQuasi) (by simp [hookBase]) fun _ hg => ?_
  simp [parseQuasi, hg, seqOf, asSeq, c1, c2, c3, pyDict_distinct _ _ hd]

theorem circuit_roundtrip (c : String) : dec (hookBase keq) (encCircuit c) = .ok (.circuit c) := by
  simp [encCircuit, dec, decFields, hookBase, parseCircuit, asStr]

structure EvalRes.WF (e : EvalRes) : Prop where
  pop : e.pop.WF keq
  best : e.best.isValid = true

theorem evalres_roundtrip (e : EvalRes) (hw : e.WF keq) : dec (hookBase keq) (encEvalRes e) = .ok (.evalres e) := by
  obtain ⟨v, d, c⟩ := Reads.elems (hook := hookBase keq) (enc := encOpt J.num)
    fun o (_ : o ∈ e.values) => Reads.opt rfl fun n _ => Reads.num _ n
  simp only [encEvalRes, dec, decFields, pop_roundtrip keq e.pop hw.pop, d, indiv_roundtrip keq e.best hw.best]
  refine hook_of_parse (parse := parseEvalRes) (by simp [hookBase]) fun _ hg => ?_
  simp [parseEvalRes, hg, asPop, seqOf, asSeq, c, asIndiv, asNum]

/-- what every existing solver result satisfies -/
structure Result.WF (r : Result) : Prop where
  best : ∀ x, r.best = some x → x.isValid = true
  eigenstate : ∀ q, r.eigenstate = some q → DistinctKeys (· == ·) q.data
  history : ∀ h, r.history = some h → ∀ e ∈ h, e.WF keq
  aux : ∀ l, r.aux = .dict l → DistinctKeys (· == ·) l

/-- the wrapper dict `{"type": …, "values": …}` of the auxiliary values passes the hook unchanged (the repair of F12) -/
theorem hookBase_wrapper (t vs : V) :
    hookBase keq [("type", t), ("values", vs)] = .ok (.dict [("type", t), ("values", vs)]) := by
  simp [hookBase]

theorem aux_roundtrip (a : Aux) (hd : ∀ l, a = .dict l → DistinctKeys (· == ·) l) :
    Reads (hookBase keq) parseAux (encAux a) a := by
  cases a with
  | none => exact ⟨_, rfl, rfl⟩
  | list l =>
    obtain ⟨vs, d, c⟩ := Reads.elems fun s (_ : s ∈ l) => scalar_roundtrip keq s
    exact ⟨.dict [("type", .str "list"), ("values", .list vs)], by simp only [encAux, dec, decFields, d, hookBase_wrapper],
      by simp [parseAux, listOf, asList, c]⟩
  | dict l =>
    obtain ⟨vs, d, c⟩ := Reads.elems (hook := hookBase keq) (cast := asAuxEntry) (enc := fun e => .arr [.str e.1, encScalar e.2])
      fun e (_ : e ∈ l) => by
        obtain ⟨v, dv, cv⟩ := scalar_roundtrip keq e.2
        exact ⟨.list [.str e.1, v], by simp [dec, decList, dv], by simp [asAuxEntry, asPair, asStr, cv]⟩
    exact ⟨.dict [("type", .str "dict"), ("values", .list vs)], by simp only [encAux, dec, decFields, d, hookBase_wrapper],
      by simp [parseAux, seqOf, asSeq, c, pyDict_distinct _ l (hd l rfl)]⟩

/-- **Complete solver result** -/
theorem result_roundtrip (r : Result) (hw : r.WF keq) : dec (hookBase keq) (encResult r) = .ok (.result r) := by
  obtain ⟨v1, d1, c1⟩ := Reads.opt (o := r.eigenvalue) rfl fun s _ => scalar_roundtrip keq s
  obtain ⟨v2, d2, c2⟩ := aux_roundtrip keq r.aux hw.aux
  obtain ⟨v3, d3, c3⟩ := Reads.opt (cast := asQuasi) (o := r.eigenstate) rfl
    fun q hq => ⟨_, quasi_roundtrip keq q (hw.eigenstate q hq), rfl⟩
  obtain ⟨v4, d4, c4⟩ := Reads.opt (cast := asIndiv) (o := r.best) rfl
    fun x hx => ⟨_, indiv_roundtrip keq x (hw.best x hx), rfl⟩
  obtain ⟨v5, d5, c5⟩ := Reads.opt (o := r.evals) rfl fun l _ => Reads.list fun i (_ : i ∈ l) => Reads.int (hookBase keq) i
  obtain ⟨v6, d6, c6⟩ := Reads.opt (o := r.generations) rfl fun i _ => Reads.int (hookBase keq) i
  obtain ⟨v7, d7, c7⟩ := Reads.opt (o := r.history) rfl fun l hl => Reads.list (cast := asEvalRes)
    fun e he => ⟨_, evalres_roundtrip keq e (hw.history l hl e he), rfl⟩
  obtain ⟨v8, d8, c8⟩ := Reads.opt (cast := asCircuit) (o := r.init) rfl fun c _ => ⟨_, circuit_roundtrip keq c, rfl⟩
  simp only [encResult, dec, decFields, d1, d2, d3, d4, d5, d6, d7, d8]
  refine hook_of_parse (parse := parseResult) (by simp [hookBase]) fun _ hg => ?_
  simp [parseResult, hg, c1, c2, c3, c4, c5, c6, c7, c8]

end pop

/-! ## `JSSPJSONEncoder` / `JSSPJSONDecoder`

Existing objects passed their constructors' checks (`Model/Jssp.lean`, C19); the decoder runs the same constructors. -/

open QVerif.Jssp (checkMachine checkOperation checkJob checkInstance checkResult)

def OpWF (o : Operation) : Prop := checkMachine o.machine = .ok () ∧ checkOperation o = .ok ()

def JobWF (j : Job) : Prop := (∀ o ∈ j.ops, OpWF o) ∧ checkJob j = .ok ()

def InstWF (i : Instance) : Prop :=
  (∀ m ∈ i.machines, checkMachine m = .ok ()) ∧ (∀ j ∈ i.jobs, JobWF j) ∧ checkInstance i = .ok ()

theorem machine_roundtrip (m : String) (h : checkMachine m = .ok ()) : dec hookJssp (encMachine m) = .ok (.machine m) := by
  simp [encMachine, dec, decFields, hookJssp, asStr, h, liftJ]

theorem op_roundtrip (o : Operation) (h : OpWF o) : dec hookJssp (encOp o) = .ok (.op o) := by
  simp only [encOp, dec, decFields, machine_roundtrip o.machine h.1, jint]
  refine hook_of_parse (parse := parseOperation) (by simp [hookJssp]) fun _ hg => ?_
  simp [parseOperation, hg, asStr, asMachine, asInt, h.2, liftJ]

theorem tuple_dec {l : List J} {vs : List V} (h : decList hookJssp l = .ok vs) :
    dec hookJssp (encTuple l) = .ok (.tuple vs) := by
  simp [encTuple, dec, decFields, h, hookJssp, asSeq]

theorem Reads.tuple {α} {cast : V → Except Err α} {enc : α → J} {l : List α}
    (h : ∀ a ∈ l, Reads hookJssp cast (enc a) a) : Reads hookJssp (tupleOf cast) (encTuple (l.map enc)) l :=
  let ⟨_, d, c⟩ := Reads.elems h
  ⟨_, tuple_dec d, c⟩

theorem job_roundtrip (j : Job) (h : JobWF j) : dec hookJssp (encJob j) = .ok (.job j) := by
  obtain ⟨v, d, c⟩ := Reads.tuple (cast := asOp) fun o ho => ⟨_, op_roundtrip o (h.1 o ho), rfl⟩
  simp only [encJob, dec, decFields, d]
  refine hook_of_parse (parse := parseJob) (by simp [hookJssp]) fun _ hg => ?_
  simp [parseJob, hg, asStr, c, h.2, liftJ]

/-- **Every job-shop instance** -/
theorem instance_roundtrip (i : Instance) (h : InstWF i) : dec hookJssp (encInst i) = .ok (.inst i) := by
  obtain ⟨v1, d1, c1⟩ := Reads.tuple (cast := asMachine) fun m hm => ⟨_, machine_roundtrip m (h.1 m hm), rfl⟩
  obtain ⟨v2, d2, c2⟩ := Reads.tuple (cast := asJob) fun j hj => ⟨_, job_roundtrip j (h.2.1 j hj), rfl⟩
  simp only [encInst, dec, decFields, d1, d2]
  refine hook_of_parse (parse := parseInst) (by simp [hookJssp]) fun _ hg => ?_
  simp [parseInst, hg, asStr, c1, c2, h.2.2, liftJ]

theorem psched_roundtrip (s : SchedOp) (h : OpWF s.op) : dec hookJssp (encPsched s) = .ok (.psched s) := by
  have ho := op_roundtrip s.op h
  obtain ⟨op, start⟩ := s
  cases start with
  | none => simp [encPsched, dec, decFields, ho, hookJssp, asOp]
  | some t =>
    simp only [encPsched, dec, decFields, ho, jint]
    refine hook_of_parse (parse := parseScheduled) (by simp [hookJssp]) fun _ hg => ?_
    simp [parseScheduled, hg, asOp, asInt]

/-- what every existing `JobShopSchedulingResult` satisfies -/
structure JResultWF (i : Instance) (s : Schedule) : Prop where
  inst : InstWF i
  keys : ∀ e ∈ s, JobWF e.1
  rows : ∀ e ∈ s, ∀ p ∈ e.2, OpWF p.op
  distinct : DistinctKeys (· == ·) s
  consistent : checkResult i s = .ok ()

/-- **Every scheduling result** (valid, invalid, with unscheduled operations) -/
theorem jresult_roundtrip (i : Instance) (s : Schedule) (h : JResultWF i s) :
    dec hookJssp (encJResult i s) = .ok (.jresult i s) := by
  -- explicit values instead of `Reads`, because two `mapE`s (`asPair`, then `asScheduleEntry`) run over the same list: the
  -- schedule dict comes back as the `V.pydict` of the pairs `emb e`, which `asSchedule` reads
  let emb : Job × List SchedOp → V × V := fun e => (.job e.1, .tuple (e.2.map V.psched))
  have hrow : ∀ e ∈ s, dec hookJssp (encTuple [encJob e.1, encTuple (e.2.map encPsched)]) =
      .ok (.tuple [(emb e).1, (emb e).2]) := fun e he => by
    have b := tuple_dec (decList_map hookJssp encPsched V.psched e.2 fun p hp => psched_roundtrip p (h.rows e he p hp))
    exact tuple_dec (by simp only [decList, job_roundtrip e.1 (h.keys e he), b, emb])
  have c1 : mapE asPair (s.map fun e => V.tuple [(emb e).1, (emb e).2]) = .ok (s.map emb) :=
    mapE_map asPair _ _ s fun _ _ => rfl
  have c2 : mapE asScheduleEntry (s.map emb) = .ok (s.map id) :=
    mapE_map asScheduleEntry _ _ s fun e _ => by
      simp [emb, asScheduleEntry, asJob, tupleOf, asTuple, mapE_map asPsched V.psched id e.2 fun _ _ => rfl]
  have hs : dec hookJssp (encSchedule s) = .ok (.pydict (s.map emb)) := by
    simp [encSchedule, dec, decFields, decList_map hookJssp _ _ s hrow, hookJssp, seqOf, asSeq, c1]
  simp only [encJResult, dec, decFields, instance_roundtrip i h.inst, hs]
  refine hook_of_parse (parse := parseJResult) (by simp [hookJssp]) fun _ hg => ?_
  simp [parseJResult, hg, asInst, asSchedule, c2, pyDict_distinct _ s h.distinct, h.consistent, liftJ]

def exLayer : Layer := { nQubits := 2, gates := [.ctrl 0 1, .crot 1 0] }
def exIndiv : CIndiv := { nQubits := 2, layers := [exLayer], params := [.float "0.5", .int 1, .float "-0.0"] }
def exIndiv2 : CIndiv := { nQubits := 2, layers := [{ nQubits := 2, gates := [.rot 0, .id 1] }], params := [.float "1.0", .float "2.5", .int 0] }
def exPop : Pop := { individuals := [exIndiv, exIndiv2, exIndiv], reps := some [exIndiv, exIndiv2],
                     members := some [(exIndiv, [0, 2]), (exIndiv2, [1])], membership := some [(0, exIndiv), (1, exIndiv2), (2, exIndiv)] }
def exResult : Result :=
  { eigenvalue := some (.complex (.float "-1.5") (.float "0.0")), aux := .dict [("a", .real (.float "1.0")), ("", .complex (.float "0.0") (.float "2.0"))],
    eigenstate := some { data := [(0, .float "0.25"), (3, .float "0.75")], shots := some (.int 64), stddev := none },
    best := some exIndiv, evals := some [4, 0], generations := some 1,
    history := some [{ pop := exPop, values := [some (.float "-1.5"), none, some (.int 2)], best := exIndiv, bestValue := .float "-1.5" }],
    init := some "UUlTS0lU" }

theorem exPop_wf : exPop.WF (· == ·) := by
  refine ⟨by decide, ?_, ?_, ?_⟩
  · intro r h; cases h; decide
  · intro m h; cases h; exact ⟨by decide, by decide⟩
  · intro m h; cases h; exact ⟨by decide, by decide⟩

theorem exResult_wf : exResult.WF (· == ·) := by
  refine ⟨?_, ?_, ?_, ?_⟩
  · intro x h; cases h; decide
  · intro q h; cases h; decide
  · intro l h; cases h; exact List.forall_mem_cons.2 ⟨⟨exPop_wf, by decide⟩, List.forall_mem_nil _⟩
  · intro l h; cases h; decide

example : dec (hookBase (· == ·)) (encResult exResult) = .ok (.result exResult) := result_roundtrip _ _ exResult_wf

instance : DecidableEq (Except QVerif.Jssp.Err Unit) := fun a b =>
  match a, b with
  | .ok (), .ok () => isTrue rfl
  | .error e, .error f => if h : e = f then isTrue (by rw [h]) else isFalse (fun c => h (by cases c; rfl))
  | .ok (), .error _ => isFalse (fun c => by cases c)
  | .error _, .ok () => isFalse (fun c => by cases c)

def exOp1 : Operation := { name := "o1", jobName := "tuple", machine := "dict", dur := 2 }
def exOp2 : Operation := { name := "o2", jobName := "tuple", machine := "m 2", dur := 1 }
def exJob : Job := { name := "tuple", ops := [exOp1, exOp2] }
def exInst : Instance := { name := "i", machines := ["dict", "m 2"], jobs := [exJob] }
def exSched : Schedule := [(exJob, [{ op := exOp1, start := some 0 }, { op := exOp2, start := none }])]

theorem exJob_wf : JobWF exJob := by
  unfold JobWF OpWF
  decide

example : dec hookJssp (encJResult exInst exSched) = .ok (.jresult exInst exSched) :=
  jresult_roundtrip _ _
    { inst := ⟨by decide, List.forall_mem_cons.2 ⟨exJob_wf, List.forall_mem_nil _⟩, by decide⟩
      keys := List.forall_mem_cons.2 ⟨exJob_wf, List.forall_mem_nil _⟩
      rows := by unfold OpWF; decide
      distinct := by decide
      consistent := by decide }

/-! ## Why the result decoder must pass unrecognised dicts through

The population decoder turns a dict it does not recognise into `None`; on the auxiliary-value wrapper
`{"type": …, "values": …}` that would lose the values (this was defect F12, repaired in `37705bd`). -/

example (keq : CIndiv → CIndiv → Bool) : dec (hookPop keq) (encAux (.list [.real (.int 1)])) = .ok .none := by
  simp [encAux, dec, decFields, decList, encScalar, hookPop]

end QVerif.Codec
