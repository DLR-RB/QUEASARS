import QVerif.Lemmas.RunnerInv
import QVerif.Model.Install

/-!
# C07 — the wrapped primitive is never used concurrently

Batching wrappers: `Runner.f_exclusive` (a corollary of the inductive control invariant `CInv` of the runner
model, `Lemmas/RunnerInv.lean`): in every reachable state — any number of threads and calls, any interleaving,
any failing batches — at most one thread is between the start of `f(batch)` and the return of its `.result()`
(location `b3`), and that thread owns both locks.

Plain mutex wrappers (`MutexSampler.run`, `MutexEstimator.run` = `with lock: return inner.run(...)`): a
two-location lock model, proved here.
-/

namespace MutexModel

/-- location of a thread calling `MutexSampler.run`: outside, inside `inner.run` (lock held) -/
inductive Loc | out | inside
  deriving DecidableEq, Repr

structure St where
  lock : Option Nat := none
  th : List Loc := []

/-- `with self._lock:` acquire (enabled iff free) then `inner.run(...)`; leaving the block releases -/
def step (s : St) (t : Nat) : Option St :=
  if t ≥ s.th.length then none else
  match s.th.getD t .out with
  | .out => if s.lock = none then some { lock := some t, th := s.th.set t .inside } else none
  | .inside => some { lock := none, th := s.th.set t .out }

inductive Reachable (n : Nat) : St → Prop
  | init : Reachable n { th := List.replicate n .out }
  | next {s s' : St} (t : Nat) : Reachable n s → step s t = some s' → Reachable n s'

def MInv (s : St) : Prop := ∀ t, t < s.th.length → (s.th.getD t .out = .inside ↔ s.lock = some t)

theorem step_eq {s s' : St} {t : Nat} (hs : step s t = some s') : t < s.th.length ∧
    ((s.th.getD t .out = .out ∧ s.lock = none ∧ s' = { lock := some t, th := s.th.set t .inside }) ∨
     (s.th.getD t .out = .inside ∧ s' = { lock := none, th := s.th.set t .out })) := by
  unfold step at hs
  split at hs
  · cases hs
  · refine ⟨by omega, ?_⟩
    split at hs
    · rename_i hout
      split at hs
      · rename_i hfree
        cases hs
        exact Or.inl ⟨hout, hfree, rfl⟩
      · cases hs
    · rename_i hin
      cases hs
      exact Or.inr ⟨hin, rfl⟩

theorem minv_step {s s' : St} {t : Nat} (h : MInv s) (hs : step s t = some s') : MInv s' := by
  intro u hu
  obtain ⟨hlt, ⟨_, hfree, rfl⟩ | ⟨hin, rfl⟩⟩ := step_eq hs
  · -- acquire: the lock was free, so nobody else is inside
    have hu' := h u (by simpa using hu)
    show (s.th.set t _).getD u .out = .inside ↔ _
    rw [QVerif.getD_set _ _ _ _ _ hlt]
    by_cases hut : u = t
    · simp [hut]
    · rw [if_neg hut, hu', hfree]; simp [Ne.symm hut]
  · -- release: `t` held the lock, so nobody else is inside
    have hu' := h u (by simpa using hu)
    show (s.th.set t _).getD u .out = .inside ↔ _
    rw [QVerif.getD_set _ _ _ _ _ hlt]
    by_cases hut : u = t
    · simp [hut]
    · rw [if_neg hut, hu', (h t hlt).mp hin]; simp [Ne.symm hut]

theorem minv_reachable {n : Nat} {s : St} (hr : Reachable n s) : MInv s := by
  induction hr with
  | init =>
    intro t ht
    simp only [List.length_replicate] at ht
    simp [List.getD_eq_getElem?_getD, ht]
  | next t _ hs ih => exact minv_step ih hs

/-- **C07 (plain mutex wrappers)**: two threads inside `inner.run` are the same thread. -/
theorem mutex_run_exclusive {n : Nat} {s : St} (hr : Reachable n s) (a b : Nat)
    (ha : a < s.th.length) (hb : b < s.th.length)
    (hia : s.th.getD a .out = .inside) (hib : s.th.getD b .out = .inside) : a = b :=
  Option.some.inj (((minv_reachable hr a ha).mp hia).symm.trans ((minv_reachable hr b hb).mp hib))

end MutexModel

namespace Runner

/-- **C07 (batching wrappers)** -/
theorem C07_f_exclusive (th0 : List TS) (h0 : ∀ x ∈ th0, x.loc = .idle) {s : St} (hr : Reachable th0 s)
    (a b : Nat) (ha : (s.get a).loc = .b3) (hb : (s.get b).loc = .b3) : a = b ∧ s.E = some a ∧ s.V = some a :=
  f_exclusive th0 h0 hr a b ha hb

/-- non-vacuity: a concrete reachable state with a thread inside `f` (two threads, one call each) -/
def exProg : List TS := [{ todo := [[1]] }, { todo := [[2, 3]] }]

/-- thread 0 enters alone, arrives, becomes executor and calls `f` -/
def exTrace : List Act := (List.replicate 9 (Act.step 0))

example : ((runActs { th := exProg } exTrace).map (fun s => ((s.get 0).loc, s.E, s.V))) = some (.b3, some 0, some 0) := by
  decide

end Runner

namespace QVerif.Install

theorem mem_viewsFrom : ∀ (cfgs : List Cfg) (k : Nat) (chain v : List W), v ∈ viewsFrom cfgs k chain →
    chain <:+ v ∧ v.head? = some .transpiling
  | c :: cs, k, chain, v, h => by
      have hs : chain <:+ install c k chain := by
        unfold install
        cases guardOf c k
        · exact List.suffix_cons _ _
        · exact (List.suffix_cons _ _).trans (List.suffix_cons _ _)
      rcases List.mem_cons.mp h with rfl | h
      · exact ⟨hs, rfl⟩
      · have ih := mem_viewsFrom cs (k + 1) _ v h
        exact ⟨hs.trans ih.1, ih.2⟩

theorem guard_on_later_paths (c : Cfg) (cs : List Cfg) (k : Nat) (chain : List W) (g : W) (hg : guardOf c k = some g) :
    ∀ v ∈ viewsFrom (c :: cs) k chain, g ∈ v ∧ v.head? = some .transpiling := by
  intro v hv
  have hgi : g ∈ install c k chain := by simp [install, hg]
  rcases List.mem_cons.mp hv with rfl | hv
  · exact ⟨hgi, rfl⟩
  · have h := mem_viewsFrom cs (k + 1) _ v hv
    exact ⟨h.1.mem hgi, h.2⟩

/-- **One guard for all solvers.**  If the first solver constructed on a configured primitive asks for mutual exclusion (thread
pool: batching runner; dask client: lock), the guard object it installs lies on the evaluation path of EVERY solver
constructed on that configured primitive afterwards, whatever their own configuration: all of them are serialised by that one
runner / lock (`C07_f_exclusive`, `mutex_run_exclusive`), and every path ends in a transpiling wrapper on the outside. -/
theorem shared_guard (c : Cfg) (cs : List Cfg) (g : W) (hg : guardOf c 0 = some g) :
    ∀ v ∈ views (c :: cs), g ∈ v ∧ v.head? = some .transpiling :=
  guard_on_later_paths c cs 0 [] g hg

-- two solvers with a thread pool on one configured estimator: T(B1(T(B0(raw)))) — both evaluate through runner 0
example : views [⟨true, .threadPool⟩, ⟨true, .threadPool⟩] =
    [[.transpiling, .batching 0], [.transpiling, .batching 1, .transpiling, .batching 0]] := by decide

end QVerif.Install
