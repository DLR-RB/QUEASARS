import QVerif.Lemmas.RunnerFair

/-!
# C08 — batching wrapper: every call completes under every schedule

`can_always_complete`: no reachable state of the runner is doomed.  From every reachable state (any number of
threads and calls, any interleaving so far — including pre-emption between any two synchronisation operations and
early or late expiry of the timed waits —, any pattern of failing batches) there is a finite continuation after
which every call has returned or raised and every thread is idle with nothing left to do.  Proof: `progress`
(every non-quiescent state satisfying the invariants has an enabled step that decreases the lexicographic measure
`(callsLeft, Σ rank)`), `Lemmas/RunnerLive.lean`.

What that theorem does not say: that a *particular* scheduler completes.  `C08_every_fair_execution_completes` below
proves that every strongly fair schedule does (`Lemmas/RunnerFair.lean`); that the OS scheduler is fair remains an
assumption (see DESIGN.md).
-/

namespace Runner

theorem C08_can_always_complete (th0 : List TS) (h0 : ∀ x ∈ th0, x.loc = .idle) {s : St} (hr : Reachable th0 s) :
    ∃ s', Run s s' ∧ Quiescent s' :=
  can_always_complete th0 h0 hr

/-- a state is never stuck: if some call is unfinished, some action is enabled (no deadlock) -/
theorem C08_no_deadlock (th0 : List TS) (h0 : ∀ x ∈ th0, x.loc = .idle) {s : St} (hr : Reachable th0 s)
    (hnq : ¬ Quiescent s) : ∃ a s', step s a = some s' := by
  obtain ⟨hc, hd⟩ := dinv_reachable th0 h0 hr
  obtain ⟨s1, hs, _⟩ := progress hc hd hnq
  obtain ⟨a, ha⟩ := step_complete s s1 hs
  exact ⟨a, s1, ha⟩

/-- **Under ANY scheduler an execution can be long only by spinning in the two timed retry loops.**  Every step of the
runner either strictly decreases the lexicographic measure `(callsLeft, Σ rank2)` or is an iteration step of the entry
retry loop (`a0 a1 a7 a8 a9`: try-lock failed → release → timed wait → try again) or of the executor's drain loop
(`g0 g1 g2 g3`: timed wait → re-notify → check again) that does not increase it; no fairness, strategy or invariant is
assumed. -/
theorem C08_step_decreases_or_retries {s s' : St} (a : Act) (h : step s a = some s') :
    muLt2 s' s ∨ RetryStep s s' :=
  nu_of_step (step_sound s s' a h)

/-- **Bounded work.**  Every finite execution from `s` — any schedule, any timeouts, any failing batches — contains at most
`weight s` steps that are not retry-loop iterations.  Hence a call can fail to return only if some thread iterates a timed
retry loop forever; `C08_can_always_complete` shows that this is never forced, and each iteration waits for a notification
or a timeout of 0.5 s (what remains for "every call returns" is that the scheduler does not starve the threads the
retrying ones wait for — DESIGN.md, C08). -/
theorem C08_bounded_work {s s' : St} (h : Run s s') : ∃ k, Path s s' k ∧ k + weight s' ≤ weight s := by
  obtain ⟨k, hk⟩ := path_of_run h
  exact ⟨k, hk, path_bound hk⟩

/-- a maximal execution: every position takes a step, or is stuck (no step possible) and stutters -/
def MaximalExec (σ : Nat → St) : Prop :=
  ∀ i, Step (σ i) (σ (i + 1)) ∨ ((∀ s', ¬ Step (σ i) s') ∧ σ (i + 1) = σ i)

/-- **Every call returns under every strongly fair schedule.**  Take any maximal execution of the runner from a reachable
state — any number of threads and calls, any interleaving, timed waits firing early or late, any pattern of failing
batches — that is strongly fair (a thread whose next synchronisation operation is enabled infinitely often performs it
infinitely often; `f` returning is one of these operations).  Then the execution reaches a quiescent state: every call has
returned or raised (by `C09_reset_after_failure` the shared state is then the initial one).  No infinite fair execution exists
(`no_infinite_fair_execution`), and a stuck state is quiescent (`progress`). -/
theorem C08_every_fair_execution_completes (th0 : List TS) (h0 : ∀ x ∈ th0, x.loc = .idle) (σ : Nat → St)
    (hr : Reachable th0 (σ 0)) (hmax : MaximalExec σ) (hf : StrongFair σ) : ∃ i, Quiescent (σ i) := by
  have hreach := reachable_seq th0 hr fun i => (hmax i).imp_right And.right
  by_cases hstuck : ∃ i, ∀ s', ¬ Step (σ i) s'
  · obtain ⟨i, hi⟩ := hstuck
    refine ⟨i, ?_⟩
    apply Classical.byContradiction
    intro hnq
    obtain ⟨hc, hd⟩ := dinv_reachable th0 h0 (hreach i)
    obtain ⟨s1, hs, _⟩ := progress hc hd hnq
    exact hi s1 hs
  · exfalso
    have hex : IsExec σ := by
      intro i
      rcases hmax i with h | h
      · exact h
      · exact absurd ⟨i, h.1⟩ hstuck
    exact no_infinite_fair_execution th0 h0 σ hr hex hf

/-! ### the hypotheses are satisfiable: executions that finish are fair -/

/-- a maximal execution that gets stuck somewhere (then stutters) is strongly fair: nothing is enabled from there on -/
theorem fair_of_stuck (σ : Nat → St) (hmax : MaximalExec σ) (i : Nat) (hi : ∀ s', ¬ Step (σ i) s') : StrongFair σ := by
  have hconst : ∀ k, σ (i + k) = σ i := by
    intro k
    induction k with
    | zero => rfl
    | succ k ih =>
      rcases hmax (i + k) with h | h
      · rw [ih] at h; exact absurd h (hi _)
      · rw [show i + (k + 1) = i + k + 1 from rfl, h.2, ih]
  intro t hinf
  obtain ⟨j, hj, s', hs, _⟩ := hinf i
  have := hconst (j - i)
  rw [show i + (j - i) = j by omega] at this
  rw [this] at hs
  exact absurd hs (hi s')

-- one caller, one call with two pubs: the complete run (20 steps); continued by stuttering it is maximal, and strongly fair by
-- `fair_of_stuck` (not composed here)
def ex8Start : St := { th := [{ todo := [[1, 2]] }] }
def ex8Acts : List Act :=
  [.step 0, .step 0, .step 0, .step 0, .step 0, .step 0, .step 0, .step 0, .step 0, .fret 0 false] ++ List.replicate 10 (.step 0)

example : (match runActs ex8Start ex8Acts with
    | some s => decide ((s.get 0).loc = .idle ∧ (s.get 0).outs = [(.ok [1, 2], 0)] ∧ s.E = none ∧ s.V = none)
    | none => false) = true := by decide +kernel

end Runner
