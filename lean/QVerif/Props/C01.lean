import QVerif.Lemmas.OptTerms
import QVerif.Lemmas.EncoderPoly

/-!
# C01 — JSSP Hamiltonian: feasible schedules lie strictly below every infeasible state

`energyOf pen inst vars limit bits` is the eigenvalue of the generated Hamiltonian on the basis state `bits`
(Model/Encoder.lean).  The decoded schedule is `translate vars bits`, whose entries are `decodeVar x.var bits`; the theorems read
the start times as `startOf x bits = (decodeVar x.var bits).getD 0`, and only where every variable decodes.  `nPrecViolated` /
`nOvlViolated` count, on these *decoded start times*, the consecutive pairs of a job that are out of order and the pairs of
operations on one machine that overlap.
-/

namespace QVerif.Encoder

/-- the documented penalty regime -/
structure Regime (pen : Penalties) : Prop where
  opt_pos : 0 < pen.opt
  opt_le_prec : pen.opt ≤ pen.prec
  opt_le_ovl : pen.opt ≤ pen.ovl
  prec_le_enc : pen.prec ≤ pen.enc
  ovl_le_enc : pen.ovl ≤ pen.enc
  share_nonneg : 0 ≤ pen.share
  share_le_one : pen.share ≤ 1

theorem Regime.prec_nonneg {pen : Penalties} (hr : Regime pen) : 0 ≤ pen.prec := Rat.le_trans (Rat.le_of_lt hr.opt_pos) hr.opt_le_prec
theorem Regime.ovl_nonneg {pen : Penalties} (hr : Regime pen) : 0 ≤ pen.ovl := Rat.le_trans (Rat.le_of_lt hr.opt_pos) hr.opt_le_ovl
theorem Regime.enc_nonneg {pen : Penalties} (hr : Regime pen) : 0 ≤ pen.enc := Rat.le_trans hr.prec_nonneg hr.prec_le_enc

/-- the weights of the makespan and of the early-start term -/
theorem Regime.mkWeight_nonneg {pen : Penalties} (hr : Regime pen) : 0 ≤ pen.opt * (1 - pen.share) :=
  Rat.mul_nonneg (Rat.le_of_lt hr.opt_pos) (by have := hr.share_le_one; grind)
theorem Regime.esWeight_nonneg {pen : Penalties} (hr : Regime pen) : 0 ≤ pen.opt * pen.share :=
  Rat.mul_nonneg (Rat.le_of_lt hr.opt_pos) hr.share_nonneg

/-- optimisation terms `mk`, `es` in `[0, 1]` with weights `u`, `w` -/
theorem optPart_bounds {u w mk es : Rat} (hu : 0 ≤ u) (hw : 0 ≤ w) (hm : 0 ≤ mk ∧ mk ≤ 1) (he : 0 ≤ es ∧ es ≤ 1) :
    0 ≤ mk * u + es * w ∧ mk * u + es * w ≤ u + w := by
  have b1 := Rat.mul_nonneg hm.1 hu
  have b2 := Rat.mul_nonneg he.1 hw
  have c1 := Rat.mul_le_mul_of_nonneg_right hm.2 hu
  have c2 := Rat.mul_le_mul_of_nonneg_right he.2 hw
  constructor <;> grind

theorem le_count_mul_add {P R : Rat} (hP : 0 ≤ P) (hR : 0 ≤ R) {n : Nat} (h : 1 ≤ n) : P ≤ (n : Rat) * P + R := by
  have := Rat.mul_le_mul_of_nonneg_right (Rat.natCast_le_natCast.mpr h : ((1 : Nat) : Rat) ≤ (n : Rat)) hP
  grind

/-- `np`, `no` violated constraints with penalties `P`, `Q` -/
theorem penalty_le_base {P Q : Rat} (hP : 0 ≤ P) (hQ : 0 ≤ Q) {np no : Nat} (h : 1 ≤ np + no) :
    P ≤ (np : Rat) * P + (no : Rat) * Q ∨ Q ≤ (np : Rat) * P + (no : Rat) * Q := by
  by_cases hp0 : 1 ≤ np
  · exact .inl (le_count_mul_add hP (Rat.mul_nonneg Rat.natCast_nonneg hQ) hp0)
  · exact .inr (Rat.add_comm _ _ ▸ le_count_mul_add hQ (Rat.mul_nonneg Rat.natCast_nonneg hP) (by omega))

/-- the five parts of `_prepare_hamiltonian` -/
theorem energyOf_eq (pen : Penalties) (inst : EInst) (vars : List (List Var)) (limit : Nat) (bits : Bits) :
    energyOf pen inst vars limit bits =
      ((precTerms (opVars inst vars)).map (fun t => pairTermValue t bits)).sum * pen.prec
      + ((ovlTerms (opVars inst vars)).map (fun t => pairTermValue t bits)).sum * pen.ovl
      + ((opVars inst vars).flatten.map (fun x => ((maxCount (precTerms (opVars inst vars) ++ ovlTerms (opVars inst vars)) x + 1
          : Nat) : Rat) * viability x.var bits)).sum * pen.enc
      + makespanTerm (opVars inst vars) limit bits * (pen.opt * (1 - pen.share))
      + earlyStartTerm (opVars inst vars) bits * (pen.opt * pen.share) := rfl

/-- **Energy of a fully decoded state.** If every start-time variable decodes, the energy is exactly one precedence
penalty per out-of-order consecutive pair, one overlap penalty per overlapping pair on a machine, plus the
optimisation part `W·((1 − share)·mk + share·es)` with `0 ≤ mk ≤ 1` and `0 ≤ es ≤ 1`. -/
theorem energy_decoded (pen : Penalties) (inst : EInst) (limit : Nat) (vars : List (List Var))
    (h : prepare inst limit = .ok vars) (bits : Bits) (hlen : bits.length = nQubits vars)
    (hall : ∀ x ∈ (opVars inst vars).flatten, (decodeVar x.var bits).isSome = true) :
    energyOf pen inst vars limit bits =
      (nPrecViolated (opVars inst vars) bits : Rat) * pen.prec + (nOvlViolated (opVars inst vars) bits : Rat) * pen.ovl
      + makespanTerm (opVars inst vars) limit bits * (pen.opt * (1 - pen.share))
      + earlyStartTerm (opVars inst vars) bits * (pen.opt * pen.share) ∧
    (0 ≤ makespanTerm (opVars inst vars) limit bits ∧ makespanTerm (opVars inst vars) limit bits ≤ 1) ∧
    (0 ≤ earlyStartTerm (opVars inst vars) bits ∧ earlyStartTerm (opVars inst vars) bits ≤ 1) := by
  have hd := allDecoded_of_isSome inst limit vars h bits hlen hall
  have hfit : ∀ x ∈ (opVars inst vars).flatten, x.var.lo + x.var.nq + x.op.dur ≤ limit :=
    fun x hx => (opVars_ok inst limit vars h x hx).fits
  refine ⟨?_, makespanTerm_bounds _ limit bits hd hfit, earlyStartTerm_bounds _ bits hd⟩
  rw [energyOf_eq, prec_sum_decoded _ bits hd, ovl_sum_decoded _ bits hd, viab_sum_decoded _ bits hd]
  grind

/-- **A decoded schedule** carries exactly its constraint penalties on top of an optimisation part in `[0, W]`. -/
theorem energy_decoded_infeasible (pen : Penalties) (hr : Regime pen) (inst : EInst) (limit : Nat) (vars : List (List Var))
    (h : prepare inst limit = .ok vars) (bits : Bits) (hlen : bits.length = nQubits vars)
    (hall : ∀ x ∈ (opVars inst vars).flatten, (decodeVar x.var bits).isSome = true) :
    let base := (nPrecViolated (opVars inst vars) bits : Rat) * pen.prec + (nOvlViolated (opVars inst vars) bits : Rat) * pen.ovl
    base ≤ energyOf pen inst vars limit bits ∧ energyOf pen inst vars limit bits ≤ base + pen.opt := by
  obtain ⟨he, hm, hes⟩ := energy_decoded pen inst limit vars h bits hlen hall
  have := optPart_bounds hr.mkWeight_nonneg hr.esWeight_nonneg hm hes
  rw [he]
  constructor <;> grind

/-- **A feasible decoded schedule has energy in `[0, W]`.** -/
theorem energy_feasible (pen : Penalties) (hr : Regime pen) (inst : EInst) (limit : Nat) (vars : List (List Var))
    (h : prepare inst limit = .ok vars) (bits : Bits) (hlen : bits.length = nQubits vars)
    (hall : ∀ x ∈ (opVars inst vars).flatten, (decodeVar x.var bits).isSome = true)
    (hp : nPrecViolated (opVars inst vars) bits = 0) (ho : nOvlViolated (opVars inst vars) bits = 0) :
    0 ≤ energyOf pen inst vars limit bits ∧ energyOf pen inst vars limit bits ≤ pen.opt := by
  have := energy_decoded_infeasible pen hr inst limit vars h bits hlen hall
  dsimp only at this
  rwa [hp, ho, show ((0 : Nat) : Rat) = 0 from rfl, Rat.zero_mul, Rat.zero_mul, Rat.add_zero, Rat.zero_add] at this

open QVerif.DoubleCount

/-- total number of reverse domain walls (values with a negative value term) over all variables -/
def totalNeg (ovs : List (List OpVar)) (bits : Bits) : Nat := sumN (fun x => negLen x bits) ovs.flatten

theorem weighted_viab_sum {α : Type} (l : List α) (m n : α → Nat) (v : α → Rat) (hv : ∀ x ∈ l, v x = 2 * (n x : Rat)) :
    (l.map (fun x => ((m x + 1 : Nat) : Rat) * v x)).sum =
      2 * ((sumN (fun x => n x * m x) l : Nat) : Rat) + 2 * ((sumN n l : Nat) : Rat) := by
  rw [sumN_eq_sum_map, sumN_eq_sum_map, natCast_sum, natCast_sum, ← sum_map_mul_left, ← sum_map_mul_left, ← sum_map_add]
  refine congrArg List.sum (List.map_congr_left fun x hx => ?_)
  rw [hv x hx, Rat.natCast_add, Rat.natCast_mul]
  grind

/-- pair sums `Sp`, `So` with penalties `P`, `Q`, their incidences `Ip`, `Io` in the negative slots, bounded by `A`; viability part
`2A + 2B` with penalty `E`; each incidence costs at most `E`; the rest `O₁ + O₂` is non-negative -/
theorem lower_arith {P Q E Sp So O₁ O₂ : Rat} {Ip Io A B : Nat} (hP : 0 ≤ P) (hQ : 0 ≤ Q) (hPE : P ≤ E) (hQE : Q ≤ E)
    (s1 : -(Ip : Rat) ≤ Sp) (s2 : -(Io : Rat) ≤ So) (hI : Ip + Io ≤ A) (h1 : 0 ≤ O₁) (h2 : 0 ≤ O₂) :
    2 * E * (B : Rat) ≤ Sp * P + So * Q + (2 * (A : Rat) + 2 * (B : Rat)) * E + O₁ + O₂ := by
  have hE := Rat.le_trans hP hPE
  have cI : (Ip : Rat) + (Io : Rat) ≤ (A : Rat) := by rw [← Rat.natCast_add]; exact Rat.natCast_le_natCast.mpr hI
  have p1 := Rat.mul_le_mul_of_nonneg_right s1 hP
  have p2 := Rat.mul_le_mul_of_nonneg_right s2 hQ
  have p3 := Rat.mul_le_mul_of_nonneg_left hPE (Rat.natCast_nonneg (a := Ip))
  have p4 := Rat.mul_le_mul_of_nonneg_left hQE (Rat.natCast_nonneg (a := Io))
  have p5 := Rat.mul_le_mul_of_nonneg_right cI hE
  have p8 := Rat.mul_nonneg (Rat.natCast_nonneg (a := A)) hE
  -- Sp·P + So·Q ≥ −(Ip + Io)·E ≥ −A·E, which the 2A·E of the viability part absorbs (with A·E ≥ 0 to spare, `p8`)
  grind

/-- **Lower bound on every basis state**: the energy is at least `2 · P_enc ·` (number of reverse domain walls). -/
theorem energy_lower (pen : Penalties) (hr : Regime pen) (inst : EInst) (limit : Nat) (vars : List (List Var))
    (h : prepare inst limit = .ok vars) (bits : Bits) :
    2 * pen.enc * (totalNeg (opVars inst vars) bits : Rat) ≤ energyOf pen inst vars limit bits := by
  have hn : ∀ x ∈ (opVars inst vars).flatten, x.var.nvals = x.var.nq + 1 := fun x hx => (opVars_ok inst limit vars h x hx).nvals
  have hI := incidences_bound (opVars inst vars).flatten bits (precTerms (opVars inst vars) ++ ovlTerms (opVars inst vars))
  rw [unitsOf, List.flatMap_append, sumN_append] at hI
  rw [energyOf_eq, totalNeg, weighted_viab_sum _ _ (fun x => negLen x bits) _ (fun x hx => by rw [viability_eq, negLen_eq_negCount x bits (hn x hx)])]
  exact lower_arith hr.prec_nonneg hr.ovl_nonneg hr.prec_le_enc hr.ovl_le_enc
    (terms_sum_ge _ bits _ (precTerms_ok _)) (terms_sum_ge _ bits _ (ovlTerms_ok _)) hI
    (Rat.mul_nonneg (makespanTerm_nonneg _ limit bits hn) hr.mkWeight_nonneg)
    (Rat.mul_nonneg (earlyStartTerm_nonneg _ bits hn) hr.esWeight_nonneg)

/-- **A bitstring with an undecodable start-time variable has energy of at least the encoding penalty**
(in fact at least twice the encoding penalty). -/
theorem energy_undecodable (pen : Penalties) (hr : Regime pen) (inst : EInst) (limit : Nat) (vars : List (List Var))
    (h : prepare inst limit = .ok vars) (bits : Bits) (hlen : bits.length = nQubits vars)
    (hund : ∃ x ∈ (opVars inst vars).flatten, decodeVar x.var bits = none) :
    pen.enc ≤ energyOf pen inst vars limit bits ∧ 2 * pen.enc ≤ energyOf pen inst vars limit bits := by
  obtain ⟨x, hx, hnone⟩ := hund
  have hok := opVars_ok inst limit vars h x hx
  have hneg : 1 ≤ negLen x bits := negLen_eq_negCount x bits hok.nvals ▸
    negCount_pos_of_undecodable x.var bits (prepare_window_length h hlen x.var hok.mem) hnone
  have htot : 1 ≤ totalNeg (opVars inst vars) bits := by
    rw [totalNeg, sumN_eq_sum_map]; exact Nat.le_trans hneg (le_sum_of_mem (fun x => negLen x bits) _ x hx)
  have hmul := Rat.mul_le_mul_of_nonneg_left (Rat.natCast_le_natCast.mpr htot : ((1 : Nat) : Rat) ≤ _)
    (Rat.mul_nonneg (Rat.natCast_nonneg (a := 2)) hr.enc_nonneg)
  have hE := Rat.le_trans hmul (energy_lower pen hr inst limit vars h bits)
  rw [show ((1 : Nat) : Rat) = 1 from rfl, Rat.mul_one] at hE
  have := hr.enc_nonneg
  exact ⟨by grind, hE⟩

/-- **Every infeasible state lies strictly above `W`** (and every feasible one at or below it, `energy_feasible`): when `W` is
strictly below both constraint penalties, or equal to them with a positive makespan share and some job with an operation. -/
theorem infeasible_above_opt (pen : Penalties) (hr : Regime pen) (inst : EInst) (limit : Nat) (vars : List (List Var))
    (h : prepare inst limit = .ok vars) (bi : Bits) (hli : bi.length = nQubits vars)
    (hinf : (∃ x ∈ (opVars inst vars).flatten, decodeVar x.var bi = none) ∨
            ((∀ x ∈ (opVars inst vars).flatten, (decodeVar x.var bi).isSome = true) ∧
              1 ≤ nPrecViolated (opVars inst vars) bi + nOvlViolated (opVars inst vars) bi))
    (hside : (pen.opt < pen.prec ∧ pen.opt < pen.ovl) ∨ (pen.share < 1 ∧ ∃ row ∈ opVars inst vars, row ≠ [])) :
    pen.opt < energyOf pen inst vars limit bi := by
  have hW := hr.opt_pos
  rcases hinf with hund | ⟨hall, hviol⟩
  · -- an undecodable variable costs `2·P_enc ≥ 2·W`
    have := (energy_undecodable pen hr inst limit vars h bi hli hund).2
    have := hr.opt_le_prec; have := hr.prec_le_enc
    grind
  · -- a violated constraint costs `P_prec` or `P_ovl`, on top of an optimisation part that is `≥ 0`, resp. `> 0`
    obtain ⟨he, hm, hes⟩ := energy_decoded pen inst limit vars h bi hli hall
    have hopt := (optPart_bounds hr.mkWeight_nonneg hr.esWeight_nonneg hm hes).1
    have hbase := penalty_le_base hr.prec_nonneg hr.ovl_nonneg hviol
    rw [he, Rat.add_assoc]
    rcases hside with hstrict | ⟨hshare, hjob⟩
    · have := hbase.elim (Std.lt_of_lt_of_le hstrict.1) (Std.lt_of_lt_of_le hstrict.2)
      grind
    · have := hbase.elim (Rat.le_trans hr.opt_le_prec) (Rat.le_trans hr.opt_le_ovl)
      have hmpos := makespanTerm_pos (opVars inst vars) limit bi (allDecoded_of_isSome inst limit vars h bi hli hall) hjob
      have b1 := Rat.mul_pos hmpos (Rat.mul_pos hW (by grind : 0 < 1 - pen.share))
      have b2 := Rat.mul_nonneg hes.1 hr.esWeight_nonneg
      grind

/-- **Separation.** With the optimisation weight strictly below both constraint penalties every feasible state lies strictly below
every infeasible state (decoded-but-violating, or with an undecodable variable). -/
theorem feasible_below_infeasible (pen : Penalties) (hr : Regime pen) (inst : EInst) (limit : Nat) (vars : List (List Var))
    (h : prepare inst limit = .ok vars) (bf bi : Bits) (hlf : bf.length = nQubits vars) (hli : bi.length = nQubits vars)
    (hfall : ∀ x ∈ (opVars inst vars).flatten, (decodeVar x.var bf).isSome = true)
    (hfp : nPrecViolated (opVars inst vars) bf = 0) (hfo : nOvlViolated (opVars inst vars) bf = 0)
    (hinf : (∃ x ∈ (opVars inst vars).flatten, decodeVar x.var bi = none) ∨
            ((∀ x ∈ (opVars inst vars).flatten, (decodeVar x.var bi).isSome = true) ∧
              1 ≤ nPrecViolated (opVars inst vars) bi + nOvlViolated (opVars inst vars) bi))
    (hstrict : pen.opt < pen.prec ∧ pen.opt < pen.ovl) :
    energyOf pen inst vars limit bf < energyOf pen inst vars limit bi :=
  Std.lt_of_le_of_lt (energy_feasible pen hr inst limit vars h bf hlf hfall hfp hfo).2
    (infeasible_above_opt pen hr inst limit vars h bi hli hinf (Or.inl hstrict))

/-- **Separation at the boundary of the documented regime**: the optimisation weight may EQUAL the constraint
penalties (as in the defaults, 100 = 100 = 100) provided the makespan share `1 − share` is positive and some job has an
operation — then the optimisation part of every decoded state is strictly positive, and an undecodable state costs at
least twice the encoding penalty. -/
theorem feasible_below_infeasible_boundary (pen : Penalties) (hr : Regime pen) (inst : EInst) (limit : Nat) (vars : List (List Var))
    (h : prepare inst limit = .ok vars) (bf bi : Bits) (hlf : bf.length = nQubits vars) (hli : bi.length = nQubits vars)
    (hfall : ∀ x ∈ (opVars inst vars).flatten, (decodeVar x.var bf).isSome = true)
    (hfp : nPrecViolated (opVars inst vars) bf = 0) (hfo : nOvlViolated (opVars inst vars) bf = 0)
    (hinf : (∃ x ∈ (opVars inst vars).flatten, decodeVar x.var bi = none) ∨
            ((∀ x ∈ (opVars inst vars).flatten, (decodeVar x.var bi).isSome = true) ∧
              1 ≤ nPrecViolated (opVars inst vars) bi + nOvlViolated (opVars inst vars) bi))
    (hshare : pen.share < 1) (hjob : ∃ row ∈ opVars inst vars, row ≠ []) :
    energyOf pen inst vars limit bf < energyOf pen inst vars limit bi :=
  Std.lt_of_le_of_lt (energy_feasible pen hr inst limit vars h bf hlf hfall hfp hfo).2
    (infeasible_above_opt pen hr inst limit vars h bi hli hinf (Or.inr ⟨hshare, hjob⟩))

/-- **The energy the theorems speak about is the eigenvalue of the operator the encoder builds.**  The operator — the sum of
products of `I`/`Z` strings assembled by `_prepare_hamiltonian`, `value_term`, `viability_term` and the constraint terms
(`Model/EncoderPoly.lean`), also in its canonical form (equal strings merged, `Z·Z = I`, zero terms dropped: what the
correspondence compares with the implementation's coefficient table at any qubit count) — has, on every computational basis
state, exactly the value `energyOf` used in `energy_decoded`, `energy_lower` and `feasible_below_infeasible`. -/
theorem hamiltonian_operator_eigenvalue (pen : Penalties) (inst : EInst) (vars : List (List Var)) (limit : Nat) (bits : Bits) :
    evalPoly bits (energyPolyOf pen inst vars limit) = energyOf pen inst vars limit bits ∧
    evalPoly bits (normalize (energyPolyOf pen inst vars limit)) = energyOf pen inst vars limit bits :=
  ⟨eval_energyPolyOf pen inst vars limit bits, by rw [eval_normalize, eval_energyPolyOf]⟩

end QVerif.Encoder

/-! ## Non-vacuity: the suite's 2-job / 2-machine instance at limit 4, default penalties (300, 100, 100, 100, 0) -/
namespace QVerif.Encoder

def exInst01 : EInst := [[⟨0, 1⟩, ⟨1, 1⟩], [⟨1, 1⟩, ⟨0, 2⟩]]
def exPen : Penalties := { enc := 300, ovl := 100, prec := 100, opt := 100, share := 0 }
def exBits (s : String) : Bits := s.toList.map (· == '1')

example : Regime exPen := by
  constructor <;> decide +kernel

-- the defaults sit on the boundary of the regime (W = P_prec = P_ovl) with the whole optimisation weight on the makespan:
-- the hypotheses of `feasible_below_infeasible_boundary`, not of `feasible_below_infeasible`
example : exPen.opt = exPen.prec ∧ exPen.opt = exPen.ovl ∧ exPen.share < 1 := by decide +kernel
example : (match prepare exInst01 4 with | .ok vars => decide (∃ row ∈ opVars exInst01 vars, row ≠ []) | _ => false) = true := by
  decide +kernel

-- qubits: j1.o1 [0,1], j1.o2 [2,3], j2.o1 [4], j2.o2 [5]   (limit 4: j1 has 2 spare slots, j2 has 1)
-- feasible: j1 at 0,1; j2 at 0,1  → energy in [0, 100]
#guard (match energy exPen exInst01 4 (exBits "000000") with | .ok e => decide (0 ≤ e ∧ e ≤ 100) | _ => false)
-- j2 at 1,1: its second operation starts before the first ends (precedence) and j2.o1 overlaps j1.o2 on machine 1:
-- two constraint penalties on top of the optimisation part
#guard (match energy exPen exInst01 4 (exBits "000010") with | .ok e => decide (200 ≤ e ∧ e ≤ 300) | _ => false)
-- malformed window 0 1 of j1.o1: at least the encoding penalty
#guard (match energy exPen exInst01 4 (exBits "010000") with | .ok e => decide (300 ≤ e) | _ => false)

end QVerif.Encoder
