import QVerif.Model.Seeds
import QVerif.Lemmas.Lists

/-!
# C17 — seeded runs are reproducible: the outcome of a mutation-operator application does not depend on the schedule

`schedule_independent`: for EVERY interleaving of the submitting loop with worker actions (any number of workers, any
order of task execution, tasks running while the loop is still submitting) the generator state after the application
and the new individuals are those of the sequential reference.  `shared_generator_depends_on_schedule`: the variant in
which tasks draw their seed from the operator's generator themselves (the seeded change for C17) does not have this
property — two schedules with one worker give different results (kernel-checked).
-/

namespace QVerif.Seeds

variable {S U Ind Res : Type}

/-- the task that iteration `k` of the submitting loop submits, if it submits one -/
def newTask (c : Cfg S U Ind Res) (s0 : S) (k : Nat) : Option (Task Ind) :=
  match c.inds[k]? with
  | none => none
  | some x =>
    if c.mutate (c.R.rand (subAt c s0 k).1).1 then some ⟨k, x, (c.R.seed (c.R.rand (subAt c s0 k).1).2).1⟩ else none

theorem newTask_idx {c : Cfg S U Ind Res} {s0 : S} {k : Nat} {t : Task Ind} (h : newTask c s0 k = some t) : t.idx = k := by
  unfold newTask at h
  split at h
  · cases h
  · split at h
    · cases h; rfl
    · cases h

theorem subAt_succ_snd (c : Cfg S U Ind Res) (s0 : S) (k : Nat) :
    (subAt c s0 (k + 1)).2 = (subAt c s0 k).2 ++ (newTask c s0 k).toList := by
  simp only [subAt, newTask]
  cases c.inds[k]? with
  | none => simp
  | some x => dsimp only; split <;> simp

theorem subAt_succ_none (c : Cfg S U Ind Res) (s0 : S) (k : Nat) (h : c.inds[k]? = none) : subAt c s0 (k + 1) = subAt c s0 k := by
  simp [subAt, h]

theorem mem_subAt (c : Cfg S U Ind Res) (s0 : S) (t : Task Ind) : ∀ k, t ∈ (subAt c s0 k).2 ↔ t.idx < k ∧ newTask c s0 t.idx = some t
  | 0 => by simp [subAt]
  | k + 1 => by
      rw [subAt_succ_snd, List.mem_append, mem_subAt c s0 t k, Option.mem_toList]
      constructor
      · rintro (⟨h1, h2⟩ | h)
        · exact ⟨by omega, h2⟩
        · have := newTask_idx h; subst this; exact ⟨by omega, h⟩
      · rintro ⟨h1, h2⟩
        by_cases h : t.idx = k
        · exact Or.inr (h ▸ h2)
        · exact Or.inl ⟨by omega, h2⟩

theorem subAt_mono (c : Cfg S U Ind Res) (s0 : S) (k : Nat) : ∀ t ∈ (subAt c s0 k).2, t ∈ (subAt c s0 (k + 1)).2 := by
  intro t ht
  rw [subAt_succ_snd]
  exact List.mem_append_left _ ht

theorem subAt_unique (c : Cfg S U Ind Res) (s0 : S) (k : Nat) (t : Task Ind) (ht : t ∈ (subAt c s0 k).2) (t' : Task Ind)
    (ht' : t' ∈ (subAt c s0 k).2) (hi : t.idx = t'.idx) : t = t' := by
  have h := ((mem_subAt c s0 t k).mp ht).2
  rw [hi, ((mem_subAt c s0 t' k).mp ht').2] at h
  exact (Option.some.inj h).symm

/-- after any prefix of any schedule the generator and the SET of submitted tasks are those of the sequential loop after `next`
iterations; a task is pending, or done with its own result: the workers' actions only move it across -/
structure Inv (c : Cfg S U Ind Res) (s0 : S) (st : St S Ind Res) : Prop where
  le : st.next ≤ c.inds.length
  rng : st.rng = (subAt c s0 st.next).1
  pending : ∀ t ∈ st.pending, t ∈ (subAt c s0 st.next).2
  done : ∀ e ∈ st.done, ∃ t ∈ (subAt c s0 st.next).2, e = (t.idx, c.task t.ind t.seed)
  all : ∀ t ∈ (subAt c s0 st.next).2, t ∈ st.pending ∨ (t.idx, c.task t.ind t.seed) ∈ st.done

theorem inv_init (c : Cfg S U Ind Res) (s0 : S) : Inv c s0 (init c s0) :=
  ⟨Nat.zero_le _, rfl, by simp [init], by simp [init], by simp [init, subAt]⟩

theorem submitStep_eq (c : Cfg S U Ind Res) (s0 : S) (st : St S Ind Res) (hr : st.rng = (subAt c s0 st.next).1)
    (hlt : st.next < c.inds.length) :
    submitStep c st = { st with rng := (subAt c s0 (st.next + 1)).1, next := st.next + 1,
                                pending := st.pending ++ (newTask c s0 st.next).toList } := by
  simp only [submitStep, subAt, newTask, List.getElem?_eq_getElem hlt, hr]
  split <;> simp

theorem inv_step (c : Cfg S U Ind Res) (s0 : S) (st : St S Ind Res) (h : Inv c s0 st) (a : Act) : Inv c s0 (step c st a) := by
  cases a with
  | submit =>
    by_cases hlt : st.next < c.inds.length
    · simp only [step]
      rw [submitStep_eq c s0 st h.rng hlt]
      refine { le := hlt, rng := rfl, pending := fun t ht => ?pending, done := fun e he => ?done, all := fun t ht => ?all }
      case pending =>
        simp only [subAt_succ_snd, List.mem_append] at ht ⊢
        exact ht.imp_left (h.pending t)
      case done =>
        obtain ⟨t, ht, rfl⟩ := h.done e he
        exact ⟨t, subAt_mono c s0 _ t ht, rfl⟩
      case all =>
        simp only [subAt_succ_snd, List.mem_append] at ht ⊢
        rcases ht with ht | ht
        · exact (h.all t ht).imp_left Or.inl
        · exact Or.inl (Or.inr ht)
    · have hx : c.inds[st.next]? = none := List.getElem?_eq_none (by omega)
      simp only [step, submitStep, hx]
      exact h
  | run k =>
    simp only [step]
    cases hp : st.pending[k]? with
    | none => exact h
    | some t =>
      refine { le := h.le, rng := h.rng, pending := fun t' ht' => h.pending t' (List.mem_of_mem_eraseIdx ht'),
               done := fun e he => ?done, all := fun t' ht' => ?all }
      case done =>
        rcases List.mem_append.mp he with he | he
        · exact h.done e he
        · exact ⟨t, h.pending t (List.mem_of_getElem? hp), List.mem_singleton.mp he⟩
      case all =>
        rcases h.all t' ht' with hp' | hd
        · by_cases heq : t' = t
          · exact Or.inr (by simp [heq])
          · obtain ⟨j, hj⟩ := List.mem_iff_getElem?.mp hp'
            exact Or.inl (List.mem_eraseIdx_iff_getElem?.mpr
              ⟨j, fun hjk => heq (Option.some.inj ((hjk ▸ hj).symm.trans hp)), hj⟩)
        · exact Or.inr (List.mem_append_left _ hd)

theorem inv_exec (c : Cfg S U Ind Res) (s0 : S) (acts : List Act) : Inv c s0 (exec c s0 acts) := by
  suffices h : ∀ st, Inv c s0 st → Inv c s0 (acts.foldl (step c) st) from h _ (inv_init c s0)
  induction acts with
  | nil => intro st h; exact h
  | cons a t ih => intro st h; exact ih _ (inv_step c s0 st h a)

/-- **Schedule independence.**  Whatever the interleaving of the submitting loop and the workers, once the
application is over the generator is in the state, and the individuals are the ones, of the sequential reference. -/
theorem schedule_independent (c : Cfg S U Ind Res) (inject : Ind → Res) (s0 : S) (acts : List Act)
    (hc : Complete c (exec c s0 acts)) :
    ((exec c s0 acts).rng, gather inject c.inds (exec c s0 acts)) = reference c inject s0 := by
  have h := inv_exec c s0 acts
  obtain ⟨hn, hp⟩ := hc
  unfold reference
  cases hs : subAt c s0 c.inds.length with
  | mk s ts =>
    have hrng : (exec c s0 acts).rng = s := by rw [h.rng, hn, hs]
    refine Prod.ext hrng ?_
    apply List.map_congr_left
    intro xi _
    obtain ⟨x, i⟩ := xi
    simp only
    have hts : (subAt c s0 (exec c s0 acts).next).2 = ts := by rw [hn, hs]
    -- the finished futures are the reference's entries in completion order; an index occurs once (`subAt_unique`), so `lookup`
    -- cannot see the order
    have key : (exec c s0 acts).done.lookup i = (ts.map fun t => (t.idx, c.task t.ind t.seed)).lookup i := by
      refine lookup_congr (fun e => ⟨fun he => ?_, fun he => ?_⟩) ?_ i
      · obtain ⟨t, ht, rfl⟩ := h.done e he
        exact List.mem_map.mpr ⟨t, hts ▸ ht, rfl⟩
      · obtain ⟨t, ht, rfl⟩ := List.mem_map.mp he
        exact (h.all t (hts ▸ ht)).resolve_left (by simp [hp])
      · intro e he e' he' hi
        obtain ⟨t, ht, rfl⟩ := List.mem_map.mp he
        obtain ⟨t', ht', rfl⟩ := List.mem_map.mp he'
        rw [subAt_unique c s0 c.inds.length t (hs ▸ ht) t' (hs ▸ ht') hi]
    rw [key]

/-- two complete schedules give the same outcome -/
theorem schedules_agree (c : Cfg S U Ind Res) (inject : Ind → Res) (s0 : S) (a b : List Act)
    (ha : Complete c (exec c s0 a)) (hb : Complete c (exec c s0 b)) :
    ((exec c s0 a).rng, gather inject c.inds (exec c s0 a)) = ((exec c s0 b).rng, gather inject c.inds (exec c s0 b)) := by
  rw [schedule_independent c inject s0 a ha, schedule_independent c inject s0 b hb]

theorem applyWith_eq_ref {S U Ind} (ops : List (Op S U Ind)) (st : RunSt S Ind) (k : Nat) (acts : List Act)
    (hc : AppComplete ops st k acts) : applyWith ops st k acts = applyRef ops st k := by
  unfold applyWith applyRef
  unfold AppComplete at hc
  cases ho : ops[k]? with
  | none => simp
  | some o =>
    cases hg : st.gens[k]? with
    | none => simp
    | some g =>
      simp only [ho, hg] at hc ⊢
      rw [← schedule_independent (o.cfg st.pop) id g acts hc]
      rfl

/-- **Whole-run schedule independence.**  A run is a sequence of operator applications, each under an arbitrary
interleaving of its submitting loop and any number of workers; if every application ran to completion, the final
population and the final state of EVERY operator's generator are those of the sequential reference run — they depend on
the initial generator states (the seeds drawn in the constructor) and the initial population only, not on any schedule. -/
theorem run_schedule_independent {S U Ind} (ops : List (Op S U Ind)) :
    ∀ (seq : List (Nat × List Act)) (st : RunSt S Ind), RunComplete ops st seq →
      runWith ops st seq = runRef ops st (seq.map (·.1))
  | [], _, _ => rfl
  | (k, acts) :: rest, st, h => by
      simp only [runWith, List.map_cons, runRef]
      rw [← applyWith_eq_ref ops st k acts h.1]
      exact run_schedule_independent ops rest _ h.2

/-- two runs applying the same operators in the same order agree, whatever their schedules -/
theorem runs_agree {S U Ind} (ops : List (Op S U Ind)) (a b : List (Nat × List Act)) (st : RunSt S Ind)
    (hab : a.map (·.1) = b.map (·.1)) (ha : RunComplete ops st a) (hb : RunComplete ops st b) :
    runWith ops st a = runWith ops st b := by
  rw [run_schedule_independent ops a st ha, run_schedule_independent ops b st hb, hab]

theorem drawSeeds_length (R : Rng S U) : ∀ k s, (drawSeeds R k s).1.length = k
  | 0, _ => rfl
  | k + 1, s => by simp [drawSeeds, drawSeeds_length R k]

def counter : Rng Nat Nat := { rand := fun s => (s, s + 1), seed := fun s => (s, s + 1) }

def exCfg : Cfg Nat Nat Nat Nat := { R := counter, mutate := fun _ => true, inds := [100, 200], task := fun x sd => x + sd }

-- worker runs each task as soon as it is submitted / only after the loop has finished: same outcome
example : Complete exCfg (exec exCfg 0 [.submit, .run 0, .submit, .run 0]) := ⟨by decide, by decide⟩
example : Complete exCfg (exec exCfg 0 [.submit, .submit, .run 1, .run 0]) := ⟨by decide, by decide⟩
example : gather id exCfg.inds (exec exCfg 0 [.submit, .run 0, .submit, .run 0]) = [101, 203] := by decide
example : gather id exCfg.inds (exec exCfg 0 [.submit, .submit, .run 1, .run 0]) = [101, 203] := by decide

-- a run of two operators (a mutating one and one that never mutates), three applications, two different schedules
def exOps : List (Op Nat Nat Nat) :=
  [{ R := counter, mutate := fun _ => true, task := fun x sd => x + sd }, { R := counter, mutate := fun _ => false, task := fun x _ => x }]
def exRunA : List (Nat × List Act) := [(0, [.submit, .run 0, .submit, .run 0]), (1, [.submit, .submit]), (0, [.submit, .submit, .run 1, .run 0])]
def exRunB : List (Nat × List Act) := [(0, [.submit, .submit, .run 0, .run 0]), (1, [.submit, .submit]), (0, [.submit, .run 0, .submit, .run 0])]
example : RunComplete exOps ⟨[0, 50], [100, 200]⟩ exRunA := by
  refine ⟨⟨by decide, by decide⟩, ⟨by decide, by decide⟩, ⟨by decide, by decide⟩, trivial⟩
example : (runWith exOps ⟨[0, 50], [100, 200]⟩ exRunA).pop = [106, 210] ∧ (runWith exOps ⟨[0, 50], [100, 200]⟩ exRunB).pop = [106, 210] ∧
    (runWith exOps ⟨[0, 50], [100, 200]⟩ exRunA).gens = [8, 52] := by decide

/-- with the seed drawn inside the task from the operator's generator, one worker and two schedules give different
individuals -/
theorem shared_generator_depends_on_schedule :
    gather id exCfg.inds (Shared.exec exCfg 0 [.submit, .run 0, .submit, .run 0]) ≠
    gather id exCfg.inds (Shared.exec exCfg 0 [.submit, .submit, .run 0, .run 0]) := by decide

end QVerif.Seeds
