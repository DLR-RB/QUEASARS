import QVerif.Lemmas.PipelineStates
import QVerif.Props.C14

/-!
# C03 — circuit evaluators return the true objective through every primitive wrapper

* `stack_pointwise`: any stack of transpiling / mutex / batching wrappers around an ideal primitive is an ideal
  primitive with the same answers, provided every rewriting in the stack preserves the answer of a pub
  (for a batching wrapper: whatever the other callers put into the batch, before or after); `transpile…_sound`: what
  that asks of a pass manager.
* `sampler_evaluate_spec/_at`, `estimator_evaluate_spec/_at`: value `i` is the objective of (initial state ∘ circuit `i`)
  bound with parameter vector `i` — every position of a batch.
* `sampler_evaluateS_spec`, `sampler_value_is_cvar`: with the shot count carried by the pub, value `i` aggregates a
  probability distribution and is the CVaR of it up to the aggregation's tolerance (C14); `override_shots_is_wrong`:
  one shot count for a whole batch breaks this.
* `layout_invariance` (+ `op_…`, `mix_…`), `expval_layout_invariance` (+ `opExpval_…`): re-laying-out a Pauli observable
  with the FINAL index layout of the transpiled circuit preserves its value on every computational-basis state and
  mixture of them, and on every pure state, for every injective layout with ancillas.
* `initial_layout_is_wrong`, `no_layout_is_wrong`: kernel-checked witnesses that using the initial layout only, or not
  re-laying-out at all, changes the value.

The two halves are not composed here.  `Stack.Sound` asks a rewriting to preserve the answer of EVERY pub; the layout
theorems speak of well-formed ones (strings and states of the layout's length) and of the placed state.  That the
estimator's transpiling wrapper meets the hypothesis of `transpileEstimator_sound` on the pubs it is given — Qiskit's
transpiler prepares the placed state — is tested against `Statevector` by the C03 check, not proved.
-/

namespace QVerif.Pipeline

theorem stack_pointwise {π ρ} (ans : π → ρ) (P : Prim π ρ) (hP : Pointwise P ans) :
    ∀ s : Stack π, s.Sound ans → Pointwise (s.wrap P) ans
  | .plain, _ => hP
  | .transpiling tr s, h => by
      intro pubs
      simp only [Stack.wrap]
      rw [stack_pointwise ans P hP s h.2 (pubs.map tr), List.map_map]
      exact List.map_congr_left fun p _ => h.1 p
  | .mutex s, h => stack_pointwise ans P hP s h
  | .batching before after s, h => by
      intro pubs
      simp only [Stack.wrap]
      rw [stack_pointwise ans P hP s h (before ++ pubs ++ after)]
      simp [List.map_append]

theorem getElem?_map_zip {α β γ} (g : α × β → γ) {xs : List α} {ys : List β} {i : Nat} (h1 : i < xs.length) (h2 : i < ys.length) :
    ((xs.zip ys).map g)[i]? = some (g (xs[i], ys[i])) := by
  rw [List.getElem?_map, List.getElem?_zip_eq_some (z := (xs[i], ys[i])) |>.mpr
    ⟨List.getElem?_eq_getElem h1, List.getElem?_eq_getElem h2⟩]
  rfl

/-- the objective of one prepared circuit as the ideal sampler sees it -/
def SamplerEval.objective {Circ Par} (e : SamplerEval Circ Par) (ideal : Circ × Par → Counts) (c : Circ) (p : Par) : Rat :=
  QVerif.Cvar.getExpectation (quasi e.f e.shots (ideal (e.prep c, p))) e.alpha

theorem sampler_evaluate_spec {Circ Par} (e : SamplerEval Circ Par) (ideal : Circ × Par → Counts)
    (P : Prim (Circ × Par) Counts) (hP : Pointwise P ideal) (s : Stack (Circ × Par)) (hs : s.Sound ideal)
    (circuits : List Circ) (params : List Par) :
    e.evaluate (s.wrap P) circuits params = (circuits.zip params).map (fun cp => e.objective ideal cp.1 cp.2) := by
  unfold SamplerEval.evaluate SamplerEval.objective
  dsimp only
  rw [stack_pointwise ideal P hP s hs]
  simp [List.zip_map_left, List.map_map]

theorem sampler_evaluate_at {Circ Par} (e : SamplerEval Circ Par) (ideal : Circ × Par → Counts)
    (P : Prim (Circ × Par) Counts) (hP : Pointwise P ideal) (s : Stack (Circ × Par)) (hs : s.Sound ideal)
    (circuits : List Circ) (params : List Par) (i : Nat) (h1 : i < circuits.length) (h2 : i < params.length) :
    (e.evaluate (s.wrap P) circuits params)[i]? = some (e.objective ideal circuits[i] params[i]) := by
  rw [sampler_evaluate_spec e ideal P hP s hs]
  exact getElem?_map_zip _ h1 h2

theorem estimator_evaluate_spec {Circ Obs Par} (e : EstimatorEval Circ Obs) (ideal : Circ × Obs × Par → Rat)
    (P : Prim (Circ × Obs × Par) Rat) (hP : Pointwise P ideal) (s : Stack (Circ × Obs × Par)) (hs : s.Sound ideal)
    (circuits : List Circ) (params : List Par) :
    e.evaluate (s.wrap P) circuits params = (circuits.zip params).map (fun cp => ideal (e.prep cp.1, e.op, cp.2)) := by
  unfold EstimatorEval.evaluate
  rw [stack_pointwise ideal P hP s hs]
  simp [List.zip_map_left, List.map_map]

theorem estimator_evaluate_at {Circ Obs Par} (e : EstimatorEval Circ Obs) (ideal : Circ × Obs × Par → Rat)
    (P : Prim (Circ × Obs × Par) Rat) (hP : Pointwise P ideal) (s : Stack (Circ × Obs × Par)) (hs : s.Sound ideal)
    (circuits : List Circ) (params : List Par) (i : Nat) (h1 : i < circuits.length) (h2 : i < params.length) :
    (e.evaluate (s.wrap P) circuits params)[i]? = some (ideal (e.prep circuits[i], e.op, params[i])) := by
  rw [estimator_evaluate_spec e ideal P hP s hs]
  exact getElem?_map_zip _ h1 h2

theorem quasi_nonneg (f : Bits → Rat) (shots : Nat) (c : Counts) : QVerif.Cvar.NonnegProbs (quasi f shots c) := by
  intro x hx
  simp only [quasi, List.mem_map] at hx
  obtain ⟨e, _, rfl⟩ := hx
  have h1 : (0 : Rat) ≤ ((e.2 : Nat) : Rat) := by exact_mod_cast Nat.zero_le _
  have h2 : (0 : Rat) ≤ ((shots : Nat) : Rat)⁻¹ := by
    rcases Nat.eq_zero_or_pos shots with h | h
    · subst h; simp
    · exact Rat.le_of_lt (Rat.inv_pos.mpr (by exact_mod_cast h))
  exact Rat.mul_nonneg h1 h2

theorem quasi_mass_eq (f : Bits → Rat) (shots : Nat) : ∀ c : Counts,
    QVerif.Cvar.mass (quasi f shots c) = ((countsTotal c : Nat) : Rat) / (shots : Rat)
  | [] => by simp [quasi, QVerif.Cvar.mass, countsTotal, Rat.div_def]
  | e :: c => by
      have ih := quasi_mass_eq f shots c
      simp only [quasi, List.map_cons, QVerif.Cvar.mass, countsTotal, List.sum_cons] at ih ⊢
      rw [ih]
      push_cast
      rw [Rat.div_def, Rat.div_def, Rat.div_def, Rat.add_mul]

theorem quasi_mass_one (f : Bits → Rat) (shots : Nat) (c : Counts) (h : countsTotal c = shots) (h0 : 0 < shots) :
    QVerif.Cvar.mass (quasi f shots c) = 1 := by
  rw [quasi_mass_eq, h]
  have : ((shots : Nat) : Rat) ≠ 0 := by exact_mod_cast Nat.pos_iff_ne_zero.mp h0
  exact Rat.mul_inv_cancel _ this

/-- **Through every stack of wrappers that hands each pub on with its own shot count, value `i` is the aggregation of a
probability distribution** (non-negative, total mass one — the hypotheses of the C14 theorems): the counts of pub `i` as
an ideal sampler that honours the pub's shots returns them, divided by the evaluator's shots.  Holds whatever other
callers, with whatever shot counts, share the batch. -/
theorem sampler_evaluateS_spec {Circ Par} (e : SamplerEval Circ Par) (ideal : SPub Circ Par → Counts)
    (hshots : ∀ p, countsTotal (ideal p) = p.2.2) (h0 : 0 < e.shots)
    (P : Prim (SPub Circ Par) Counts) (hP : Pointwise P ideal) (s : Stack (SPub Circ Par)) (hs : s.Sound ideal)
    (circuits : List Circ) (params : List Par) :
    e.evaluateS (s.wrap P) circuits params =
      (circuits.zip params).map (fun cp => QVerif.Cvar.getExpectation (quasi e.f e.shots (ideal (e.prep cp.1, cp.2, e.shots))) e.alpha) ∧
    ∀ cp ∈ circuits.zip params,
      QVerif.Cvar.NonnegProbs (quasi e.f e.shots (ideal (e.prep cp.1, cp.2, e.shots))) ∧
      QVerif.Cvar.mass (quasi e.f e.shots (ideal (e.prep cp.1, cp.2, e.shots))) = 1 := by
  constructor
  · unfold SamplerEval.evaluateS
    dsimp only
    rw [stack_pointwise ideal P hP s hs]
    simp [List.zip_map_left, List.map_map]
  · intro cp _
    exact ⟨quasi_nonneg _ _ _, quasi_mass_one _ _ _ (hshots _) h0⟩

/-- **The value an evaluator returns is the CVaR of the measured distribution, up to the aggregation's resolution** — C03's
glue and C14's aggregation theorems composed: through every sound wrapper stack and at every batch position `i`, for a tail
fraction not within `isclose` of 1, the returned value is within `(1e-8 + 1e-5·α)·max|f| / α` of the exact CVaR ("mean of the
objective over the lowest `α` of the probability mass", `cvar_is_min`) of the distribution `counts / shots` of circuit `i` behind
the initial state, which is a probability distribution. -/
theorem sampler_value_is_cvar {Circ Par} (e : SamplerEval Circ Par) (ideal : SPub Circ Par → Counts)
    (hshots : ∀ p, countsTotal (ideal p) = p.2.2) (h0 : 0 < e.shots)
    (P : Prim (SPub Circ Par) Counts) (hP : Pointwise P ideal) (s : Stack (SPub Circ Par)) (hs : s.Sound ideal)
    (circuits : List Circ) (params : List Par) (M : Rat) (hM0 : 0 ≤ M) (hM : ∀ b, QVerif.Cvar.rabs (e.f b) ≤ M)
    (ha0 : 0 < e.alpha) (hfar : QVerif.Cvar.isclose e.alpha 1 = false)
    (i : Nat) (h1 : i < circuits.length) (h2 : i < params.length) :
    ∃ v, (e.evaluateS (s.wrap P) circuits params)[i]? = some v ∧
      QVerif.Cvar.NonnegProbs (quasi e.f e.shots (ideal (e.prep circuits[i], params[i], e.shots))) ∧
      QVerif.Cvar.mass (quasi e.f e.shots (ideal (e.prep circuits[i], params[i], e.shots))) = 1 ∧
      QVerif.Cvar.rabs (v - QVerif.Cvar.cvarExact (quasi e.f e.shots (ideal (e.prep circuits[i], params[i], e.shots))) e.alpha)
        ≤ (QVerif.Cvar.atol + QVerif.Cvar.rtol * QVerif.Cvar.rabs e.alpha) * M / e.alpha := by
  obtain ⟨hspec, _⟩ := sampler_evaluateS_spec e ideal hshots h0 P hP s hs circuits params
  refine ⟨QVerif.Cvar.getExpectation (quasi e.f e.shots (ideal (e.prep circuits[i], params[i], e.shots))) e.alpha, ?_,
    quasi_nonneg _ _ _, quasi_mass_one _ _ _ (hshots _) h0, ?_⟩
  · rw [hspec]; exact getElem?_map_zip _ h1 h2
  refine (QVerif.Cvar.tolerance_bound _ e.alpha M (quasi_nonneg _ _ _) hM0 ?_ ha0 hfar).1
  intro x hx
  simp only [quasi, List.mem_map] at hx
  obtain ⟨c, _, rfl⟩ := hx
  exact hM c.1

/-- the coerced-pub transpiling wrapper keeps parameter values and shots: sound when the pass manager preserves the
measured statistics -/
theorem transpileSPub_sound {Circ Par} (pm : Circ → Circ) (ideal : SPub Circ Par → Counts)
    (hpm : ∀ c p n, ideal (pm c, p, n) = ideal (c, p, n)) : ∀ p, ideal (transpileSPub pm p) = ideal p :=
  fun p => hpm p.1 p.2.1 p.2.2

/-- witness (seeded change C03e): handing a batch on with ONE shot count is not a sound rewriting for a sampler that
honours shots — a pub of an evaluator with 4 shots answered with 8 counts yields total "probability" 2 -/
theorem override_shots_is_wrong :
    let ideal : SPub Unit Unit → Counts := fun p => [([false], p.2.2)]
    (∀ p, countsTotal (ideal p) = p.2.2) ∧
    QVerif.Cvar.mass (quasi (fun _ => 1) 4 (ideal (overrideShots 8 ((), (), 4)))) = 2 := by
  constructor
  · intro p; simp [countsTotal]
  · decide +kernel

/-- the transpiling sampler wrapper is sound when the pass manager preserves the measured statistics -/
theorem transpileSampler_sound {Circ Par} (pm : Circ → Circ) (ideal : Circ × Par → Counts)
    (hpm : ∀ c p, ideal (pm c, p) = ideal (c, p)) : ∀ p, ideal (transpileSamplerPub pm p) = ideal p :=
  fun p => hpm p.1 p.2

/-- the transpiling estimator wrapper is sound when re-laying-out the observable compensates the layout of the
transpiled circuit -/
theorem transpileEstimator_sound {Circ Obs Par} (pm : Circ → Circ) (relayout : Circ → Obs → Obs)
    (ideal : Circ × Obs × Par → Rat) (h : ∀ c o p, ideal (pm c, relayout (pm c) o, p) = ideal (c, o, p)) :
    ∀ p, ideal (transpileEstimatorPub pm relayout p) = ideal p :=
  fun p => h p.1 p.2.1 p.2.2

theorem map_map_congr {α β γ} {f : β → γ} {g : α → β} {h : α → γ} {l : List α} (H : ∀ x ∈ l, f (g x) = h x) :
    (l.map g).map f = l.map h := by
  rw [List.map_map]
  exact List.map_congr_left H

theorem factor_I (b : Bool) : factor .I b = 1 := rfl

/-- **Layout invariance**: on a basis state moved to the physical qubits by the final layout, the re-laid-out Pauli
string has the value of the original string on the original state. -/
theorem layout_invariance (ps : List Pauli) (b : Bits) (final : List Nat) (n m : Nat) (hl : LayoutOk final n m)
    (hp : ps.length = n) (hb : b.length = n) :
    stringVal (applyLayout ps final m) (place b final m) = stringVal ps b := by
  rw [stringVal_eq, stringVal_eq]
  exact foldr_zipWith_scatter Rat.mul_assoc Rat.mul_comm Rat.one_mul factor rfl hl hp hb

theorem op_layout_invariance (o : PauliOp) (b : Bits) (final : List Nat) (n m : Nat) (hl : LayoutOk final n m)
    (hp : ∀ t ∈ o, t.2.length = n) (hb : b.length = n) :
    opVal (opApplyLayout o final m) (place b final m) = opVal o b := by
  unfold opVal opApplyLayout
  exact congrArg List.sum (map_map_congr fun t ht => congrArg (t.1 * ·) (layout_invariance t.2 b final n m hl (hp t ht) hb))

/-- … and on every mixture of basis states (all a diagonal observable sees of any state) -/
theorem mix_layout_invariance (o : PauliOp) (μ : Mixture) (final : List Nat) (n m : Nat) (hl : LayoutOk final n m)
    (hp : ∀ t ∈ o, t.2.length = n) (hb : ∀ e ∈ μ, e.2.length = n) :
    mixVal (opApplyLayout o final m) (mixPlace μ final m) = mixVal o μ := by
  unfold mixVal mixPlace
  exact congrArg List.sum (map_map_congr fun e he => congrArg (e.1 * ·) (op_layout_invariance o e.2 final n m hl hp (hb e he)))

theorem amp_place (ψ : State) (final : List Nat) (n m : Nat) (hl : LayoutOk final n m) (hψ : ∀ e ∈ ψ, e.1.length = n)
    (b : Bits) (hb : b.length = n) : amp (statePlace ψ final m) (place b final m) = amp ψ b := by
  unfold amp statePlace
  rw [List.filter_map, List.map_map]
  refine congrArg (fun l : State => GRat.sum (l.map (·.2))) (List.filter_congr fun e he => ?_)
  exact decide_eq_decide.mpr ⟨fun h => place_injective final n m hl e.1 b (hψ e he) hb h, fun h => h ▸ rfl⟩

/-- **Layout invariance for every pure state and every Pauli string**: ⟨ψ'| P' |ψ'⟩ = ⟨ψ| P |ψ⟩ where `P'` is `P`
re-laid-out with the final index layout and `ψ'` is `ψ` on the physical qubits (ancillas in `|0⟩`). -/
theorem expval_layout_invariance (ps : List Pauli) (ψ : State) (final : List Nat) (n m : Nat) (hl : LayoutOk final n m)
    (hp : ps.length = n) (hψ : ∀ e ∈ ψ, e.1.length = n) :
    expval (applyLayout ps final m) (statePlace ψ final m) = expval ps ψ := by
  unfold expval
  refine congrArg GRat.sum (map_map_congr (g := fun e : Bits × GRat => (place e.1 final m, e.2)) fun e he => ?_)
  rw [phase_layout ps e.1 final n m hl hp (hψ e he), flip_layout ps e.1 final m (hp.trans (hψ e he).symm),
    amp_place ψ final n m hl hψ (flip ps e.1) ((flip_length _ _).trans (hψ e he))]

/-- … and for every `SparsePauliOp` -/
theorem opExpval_layout_invariance (o : PauliOp) (ψ : State) (final : List Nat) (n m : Nat) (hl : LayoutOk final n m)
    (hp : ∀ t ∈ o, t.2.length = n) (hψ : ∀ e ∈ ψ, e.1.length = n) :
    opExpval (opApplyLayout o final m) (statePlace ψ final m) = opExpval o ψ := by
  unfold opExpval opApplyLayout
  exact congrArg GRat.sum (map_map_congr fun t ht =>
    congrArg (GRat.smul t.1) (expval_layout_invariance t.2 ψ final n m hl (hp t ht) hψ))

/-- on a basis state `expval` is `stringVal` -/
example : expval [.Z, .I] [([true, false], ⟨1, 0⟩)] = ⟨-1, 0⟩ := by decide +kernel

-- the (unnormalised) Bell state |00⟩ + |11⟩: ⟨XX⟩ = 2, ⟨YY⟩ = −2, ⟨ZZ⟩ = 2, ⟨ZI⟩ = 0 — before and after a routed layout
def bell : State := [([false, false], ⟨1, 0⟩), ([true, true], ⟨1, 0⟩)]
example : expval [.X, .X] bell = ⟨2, 0⟩ ∧ expval [.Y, .Y] bell = ⟨-2, 0⟩ ∧ expval [.Z, .Z] bell = ⟨2, 0⟩ ∧ expval [.Z, .I] bell = ⟨0, 0⟩ := by
  decide +kernel
example : expval (applyLayout [.Y, .Y] [2, 1] 3) (statePlace bell [2, 1] 3) = ⟨-2, 0⟩ := by decide +kernel
-- |0⟩ + i|1⟩ : ⟨Y⟩ = 2
example : expval [.Y] [([false], ⟨1, 0⟩), ([true], ⟨0, 1⟩)] = ⟨2, 0⟩ := by decide +kernel

/-! ## What goes wrong otherwise (kernel-checked witnesses)

Two virtual qubits on a three-qubit device; routing leaves virtual qubit 0 on physical qubit 2 although it started on
physical qubit 0 (`initial = [0, 1]`, `final = [2, 1]`); state `|q0 q1⟩ = |1 0⟩`, observable `Z ⊗ I`. -/

example : LayoutOk [2, 1] 2 3 := ⟨rfl, by decide, by decide⟩

/-- using only the initial layout (the seeded change of C03) measures the wrong physical qubit -/
theorem initial_layout_is_wrong :
    stringVal (applyLayout [.Z, .I] [0, 1] 3) (place [true, false] [2, 1] 3) ≠ stringVal [.Z, .I] [true, false] := by
  decide +kernel

/-- not re-laying-out at all (defect F1 of the pinned tree, repaired in `fd67aba`) -/
theorem no_layout_is_wrong :
    stringVal [.Z, .I] (place [true, false] [2, 1] 3) ≠ stringVal [.Z, .I] [true, false] := by
  decide +kernel

example : stringVal (applyLayout [.Z, .I] [2, 1] 3) (place [true, false] [2, 1] 3) = -1 := by decide +kernel

end QVerif.Pipeline
