import QVerif.Model.Evqe

/-!
# C11 — operators never modify their input population or recorded history

A purely functional model makes this property vacuous, so the operators are lifted to a **heap**: the mutable
containers the Python code creates (`species_representatives` list, `species_members` dict with its member lists,
`species_membership` dict) are heap cells; a population holds *references*; tuples and frozen dataclasses
(individuals) are values.  Each lifted operator returns the references it wrote to.

* speciation works on a **copy** of the input's representative list (`list(population.species_representatives)`, a
  fresh cell) and on fresh dicts/lists, and returns a population of fresh cells;
* selection and the mutation operators create no mutable container: they hand the *reference* of the input's
  representative list on (`species_representatives=population.species_representatives`) and write nothing.

`Legacy.hSpeciate` is the pre-repair variant (the working list *is* the input's cell), kept to document finding F7.
-/

namespace QVerif.Evqe
open QVerif.Genome

inductive Cell where
  | indList (l : List Indiv)
  | members (d : List (Indiv × List Nat))
  | membership (d : List (Nat × Indiv))
  deriving Repr, DecidableEq

abbrev Heap := List Cell

/-- a population as Python holds it: immutable tuple of individuals + references to mutable containers -/
structure HPop where
  inds : List Indiv
  reps : Option Nat
  members : Option Nat
  membership : Option Nat
  deriving Repr, DecidableEq

def derefList (h : Heap) (r : Option Nat) : Option (List Indiv) :=
  r.bind (fun i => match h[i]? with | some (.indList l) => some l | _ => none)
def derefMembers (h : Heap) (r : Option Nat) : Option (List (Indiv × List Nat)) :=
  r.bind (fun i => match h[i]? with | some (.members d) => some d | _ => none)
def derefMembership (h : Heap) (r : Option Nat) : Option (List (Nat × Indiv)) :=
  r.bind (fun i => match h[i]? with | some (.membership d) => some d | _ => none)

/-- the observable value of a population in a heap -/
def deref (h : Heap) (p : HPop) : Pop :=
  { inds := p.inds, reps := derefList h p.reps, members := derefMembers h p.members,
    membership := derefMembership h p.membership }

def HPop.WithIn (p : HPop) (n : Nat) : Prop :=
  (∀ r, p.reps = some r → r < n) ∧ (∀ r, p.members = some r → r < n) ∧ (∀ r, p.membership = some r → r < n)

/-- result of a lifted operator: new heap, output population, references written to -/
structure HResult where
  heap : Heap
  out : HPop
  writes : List Nat

def optCell {α} (o : Option α) (mk : α → Cell) : Cell := match o with | some a => mk a | none => .indList []

/-- lifted speciation: the working copy of the representative list and the three result containers are fresh cells;
all writes go to them -/
def hSpeciate (thr : Int) (choices : List Nat) (h : Heap) (p : HPop) : Except OpErr HResult :=
  match speciate thr choices (deref h p) with
  | .error e => .error e
  | .ok (q, _) =>
    let n := h.length
    -- cell n: the working copy `list(population.species_representatives)` (appended to during phase 1)
    let work : Cell := .indList (reps0Of (deref h p))
    let h' := h ++ [work, optCell q.reps .indList, optCell q.members .members, optCell q.membership .membership]
    .ok { heap := h', out := { inds := q.inds, reps := some (n + 1), members := some (n + 2), membership := some (n + 3) },
          writes := [n, n + 1, n + 2, n + 3] }

/-- lifted selection: no new mutable container; the representative list reference is handed on -/
def hSelect (alpha beta : Rat) (mode : SelMode) (evals : List Rat) (h : Heap) (p : HPop) : Except OpErr HResult :=
  match (select alpha beta mode evals (deref h p)).1 with
  | .error e => .error e
  | .ok q => .ok { heap := h, out := { inds := q.inds, reps := p.reps, members := none, membership := none }, writes := [] }

def hMutate (plan : List (Option MutStep)) (h : Heap) (p : HPop) : Except OpErr HResult :=
  match (mutate plan (deref h p)).1 with
  | .error e => .error e
  | .ok q => .ok { heap := h, out := { inds := q.inds, reps := p.reps, members := none, membership := none }, writes := [] }

inductive Op where
  | speciate (thr : Int) (choices : List Nat)
  | select (alpha beta : Rat) (mode : SelMode) (evals : List Rat)
  | mutate (plan : List (Option MutStep))

def applyOp : Op → Heap → HPop → Except OpErr HResult
  | .speciate thr ch, h, p => hSpeciate thr ch h p
  | .select a b m e, h, p => hSelect a b m e h p
  | .mutate plan, h, p => hMutate plan h p

def Extends (h' h : Heap) : Prop := ∃ ext, h' = h ++ ext

theorem Extends.refl (h : Heap) : Extends h h := ⟨[], (List.append_nil h).symm⟩

theorem getElem?_extends {h' h : Heap} (he : Extends h' h) {i : Nat} (hi : i < h.length) : h'[i]? = h[i]? := by
  obtain ⟨ext, rfl⟩ := he
  exact List.getElem?_append_left hi

theorem deref_extends {h h' : Heap} (he : Extends h' h) (p : HPop) (hp : p.WithIn h.length) : deref h' p = deref h p := by
  obtain ⟨h1, h2, h3⟩ := hp
  unfold deref derefList derefMembers derefMembership
  congr 1
  · exact Option.bind_congr fun r hr => by rw [getElem?_extends he (h1 r hr)]
  · exact Option.bind_congr fun r hr => by rw [getElem?_extends he (h2 r hr)]
  · exact Option.bind_congr fun r hr => by rw [getElem?_extends he (h3 r hr)]

/-- `hSelect` and `hMutate` end in the same `match`: the heap is handed on, nothing is written -/
theorem applyOp_pure_ok {res : Except OpErr Pop} {h : Heap} {p : HPop} {r : HResult}
    (hr : (match res with
      | .error e => .error e
      | .ok q => .ok { heap := h, out := { inds := q.inds, reps := p.reps, members := none, membership := none }, writes := [] })
      = Except.ok r) :
    ∃ q, res = .ok q ∧ r = ⟨h, ⟨q.inds, p.reps, none, none⟩, []⟩ := by
  split at hr
  · cases hr
  · cases hr; exact ⟨_, rfl, rfl⟩

/-- **every write of an operator targets a cell allocated during that application; old cells are untouched; the
output's references lie in the new heap** -/
theorem operators_write_only_fresh (op : Op) (h : Heap) (p : HPop) (hp : p.WithIn h.length) (r : HResult)
    (hr : applyOp op h p = .ok r) :
    Extends r.heap h ∧ (∀ w ∈ r.writes, h.length ≤ w) ∧ r.out.WithIn r.heap.length := by
  cases op with
  | speciate thr ch =>
    simp only [applyOp, hSpeciate] at hr
    split at hr
    · cases hr
    · cases hr
      refine ⟨⟨_, rfl⟩, fun w hw => ?_, ?_⟩
      · simp only [List.mem_cons, List.not_mem_nil, or_false] at hw; omega
      · simp only [HPop.WithIn, Option.some.injEq, List.length_append, List.length_cons, List.length_nil]
        exact ⟨by omega, by omega, by omega⟩
  | select | mutate =>
    simp only [applyOp, hSelect, hMutate] at hr
    obtain ⟨q, _, rfl⟩ := applyOp_pure_ok hr
    exact ⟨.refl h, nofun, hp.1, nofun, nofun⟩

/-- run a sequence of operators, recording every input population (what the solver's history and callbacks hold) -/
def runOps : List Op → Heap → HPop → List HPop → Except OpErr (Heap × HPop × List HPop)
  | [], h, p, hist => .ok (h, p, hist ++ [p])
  | op :: rest, h, p, hist =>
    match applyOp op h p with
    | .error e => .error e
    | .ok r => runOps rest r.heap r.out (hist ++ [p])

theorem extends_trans {a b c : Heap} (h1 : Extends a b) (h2 : Extends b c) : Extends a c := by
  obtain ⟨e1, rfl⟩ := h1; obtain ⟨e2, rfl⟩ := h2; exact ⟨e2 ++ e1, by simp⟩

theorem Extends.length_le {a b : Heap} (h : Extends a b) : b.length ≤ a.length := by
  obtain ⟨e, rfl⟩ := h; simp

theorem withIn_mono {p : HPop} {n m : Nat} (h : p.WithIn n) (hnm : n ≤ m) : p.WithIn m :=
  ⟨fun r hr => Nat.lt_of_lt_of_le (h.1 r hr) hnm, fun r hr => Nat.lt_of_lt_of_le (h.2.1 r hr) hnm,
   fun r hr => Nat.lt_of_lt_of_le (h.2.2 r hr) hnm⟩

theorem runOps_extends {ops : List Op} {h : Heap} {p : HPop} {hist : List HPop} {hF : Heap} {pF : HPop} {histF : List HPop}
    (hp : p.WithIn h.length) (hh : ∀ q ∈ hist, q.WithIn h.length) (hr : runOps ops h p hist = .ok (hF, pF, histF)) :
    Extends hF h ∧ (∃ later, histF = hist ++ later) ∧ ∀ q ∈ histF, q.WithIn hF.length := by
  induction ops generalizing h p hist with
  | nil =>
    simp only [runOps, Except.ok.injEq, Prod.mk.injEq] at hr
    obtain ⟨rfl, rfl, rfl⟩ := hr
    exact ⟨.refl h, ⟨[p], rfl⟩, fun q hq => (List.mem_append.mp hq).elim (hh q) fun hq => List.mem_singleton.mp hq ▸ hp⟩
  | cons op rest ih =>
    simp only [runOps] at hr
    cases ha : applyOp op h p with
    | error e => rw [ha] at hr; cases hr
    | ok r =>
      rw [ha] at hr
      obtain ⟨hext, _, hout⟩ := operators_write_only_fresh op h p hp r ha
      have hh' : ∀ q ∈ hist ++ [p], q.WithIn r.heap.length := fun q hq =>
        withIn_mono ((List.mem_append.mp hq).elim (hh q) fun hq => List.mem_singleton.mp hq ▸ hp) hext.length_le
      obtain ⟨hextF, ⟨later, hlater⟩, hin⟩ := ih hout hh' hr
      exact ⟨extends_trans hextF hext, ⟨[p] ++ later, by rw [hlater, List.append_assoc]⟩, hin⟩

/-- **History is stable**: for every sequence of operators, every population recorded before the run (`hist`) dereferences,
in the final heap, to exactly the value it had then (`snap`); the run only appends to the history, and every recorded
reference stays inside the heap (so the statement applies again from any later state). -/
theorem history_stable : ∀ (ops : List Op) (h : Heap) (p : HPop) (hist : List HPop) (snap : List Pop)
    (hF : Heap) (pF : HPop) (histF : List HPop),
    p.WithIn h.length → (∀ q ∈ hist, q.WithIn h.length) → snap = hist.map (deref h) →
    runOps ops h p hist = .ok (hF, pF, histF) →
    Extends hF h ∧ ∃ later, histF = hist ++ later ∧ (hist.map (deref hF) = snap) ∧
      (∀ q ∈ histF, q.WithIn hF.length) := by
  intro ops h p hist snap hF pF histF hp hh hs hr
  obtain ⟨hext, ⟨later, hl⟩, hin⟩ := runOps_extends hp hh hr
  exact ⟨hext, later, hl, hs ▸ List.map_congr_left fun q hq => deref_extends hext q (hh q hq), hin⟩

/-- the lifted operators compute what the functional model (C10) computes -/
theorem lifted_refines (op : Op) (h : Heap) (p : HPop) (r : HResult) (hr : applyOp op h p = .ok r) :
    match op with
    | .speciate thr ch => ∃ q rest, speciate thr ch (deref h p) = .ok (q, rest) ∧ deref r.heap r.out = q
    | .select a b m e => ∃ q, (select a b m e (deref h p)).1 = .ok q ∧ (deref r.heap r.out).inds = q.inds ∧
        (deref r.heap r.out).reps = (deref h p).reps
    | .mutate plan => ∃ q, (mutate plan (deref h p)).1 = .ok q ∧ (deref r.heap r.out).inds = q.inds ∧
        (deref r.heap r.out).reps = (deref h p).reps := by
  cases op with
  | speciate thr ch =>
    simp only [applyOp, hSpeciate] at hr
    cases hs : speciate thr ch (deref h p) with
    | error e => rw [hs] at hr; cases hr
    | ok qr =>
      obtain ⟨q, rest⟩ := qr
      rw [hs] at hr
      cases hr
      refine ⟨q, rest, hs, ?_⟩
      -- the three result cells hold q's containers (speciate always returns `some` containers)
      unfold speciate at hs
      split at hs
      · cases hs
      · cases hs
        simp only [deref, derefList, derefMembers, derefMembership, optCell, Option.bind_some,
          List.getElem?_append_right (Nat.le_add_right _ _), Nat.add_sub_cancel_left]
        rfl
  | select | mutate =>
    simp only [applyOp, hSelect, hMutate] at hr
    obtain ⟨q, hs, rfl⟩ := applyOp_pure_ok hr
    exact ⟨q, hs, rfl, rfl⟩

/-! ## Legacy (pre-repair) speciation: finding F7 / the kind of change this property excludes -/

namespace Legacy

/-- pre-repair: `species_representatives = population.species_representatives` — the working list is the input's own
cell, and founding a new species appends to it -/
def hSpeciate (thr : Int) (choices : List Nat) (h : Heap) (p : HPop) : Except OpErr HResult :=
  match speciate thr choices (deref h p) with
  | .error e => .error e
  | .ok (q, _) =>
    let n := h.length
    let worked : List Indiv := (assign thr (deref h p).inds.zipIdx (reps0Of (deref h p)) (initDict (reps0Of (deref h p)))).1
    let (h0, ws) : Heap × List Nat := match p.reps with
      | some r => (h.set r (.indList worked), [r])       -- the append hits the input's cell
      | none => (h, [])
    let h' := h0 ++ [optCell q.reps .indList, optCell q.members .members, optCell q.membership .membership]
    .ok { heap := h', out := { inds := q.inds, reps := some n, members := some (n + 1), membership := some (n + 2) },
          writes := ws ++ [n, n + 1, n + 2] }

def a1 : Indiv := ⟨1, [⟨1, [.rot 0]⟩], [1, 2, 3]⟩
def a2 : Indiv := ⟨1, [⟨1, [.rot 0]⟩, ⟨1, [.id 0]⟩, ⟨1, [.rot 0]⟩], [1, 2, 3, 4, 5, 6]⟩
/-- heap with one recorded population whose representatives are `[a1]` -/
def h0 : Heap := [.indList [a1]]
def p0 : HPop := ⟨[a1, a2], some 0, none, none⟩

/-- a later speciation (threshold 1: `a2` founds a new species) changes what the recorded population shows -/
example : (Legacy.hSpeciate 1 [0, 1] h0 p0).toOption.map (fun r => (deref r.heap p0).reps) = some (some [a1, a2]) := by
  decide +kernel
/-- the repaired operator leaves it alone -/
example : (QVerif.Evqe.hSpeciate 1 [0, 1] h0 p0).toOption.map (fun r => (deref r.heap p0).reps) = some (some [a1]) := by
  decide +kernel

end Legacy

end QVerif.Evqe
