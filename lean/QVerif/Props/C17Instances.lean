import Std.Data.String.ToNat
import QVerif.Model.RandomInstance
import QVerif.Props.C19

/-!
# C17 / C19 — the random job-shop instance constructor

The constructor is modelled with every use of its generator as an input (`Model/RandomInstance.lean`); the harness replays
the draws recorded from `random.Random(seed)`.  Theorems, for every sequence of draws (hence for every seed):

* `randomInstance_accepted`: whatever it returns is accepted by the problem-instance validators — it is well-formed
  (`QVerif.Jssp.WFInstance`: non-empty names, positive durations, unique operations, no machine visited twice by a job, only
  declared machines);
* `randomInstance_total`: for valid arguments (distributions summing to one with positive durations, amounts that give between
  one operation and one per machine) and draws that are what `sample` / `shuffle` / `choices` can deliver (distinct machines
  below `n_machines`, a permutation of them, indices into the distributions), the constructor does not raise.
-/

namespace QVerif.RandInst

open QVerif.Jssp

theorem machineName_ne (i : Nat) : machineName i ≠ "" := fun h => absurd (String.append_eq_empty_iff.mp h).1 (by decide)
theorem jobName_ne (i : Nat) : jobName i ≠ "" := fun h => absurd (String.append_eq_empty_iff.mp h).1 (by decide)
theorem opName_ne (i : Nat) : opName i ≠ "" := fun h => absurd (String.append_eq_empty_iff.mp h).1 (by decide)

theorem machineName_inj {a b : Nat} (h : machineName a = machineName b) : a = b :=
  Nat.repr_injective ((String.append_right_inj "m").mp h)
theorem jobName_inj {a b : Nat} (h : jobName a = jobName b) : a = b :=
  Nat.repr_injective ((String.append_right_inj "job").mp h)
theorem opName_inj {a b : Nat} (h : opName a = opName b) : a = b :=
  Nat.repr_injective ((String.append_right_inj "op").mp h)

theorem mkOps_spec (i : Nat) (dur : VD Int) : ∀ (ms : List Nat) (ds : List (Option Nat)) (j : Nat) (ops : List Operation),
    mkOps i dur ms ds j = .ok ops →
      ops.map Operation.machine = ms.map machineName ∧
      ops.map Operation.ident = (List.range' j ms.length).map (fun k => jobName i ++ "_" ++ opName k) ∧
      (∀ o ∈ ops, o.jobName = jobName i ∧ checkOperation o = .ok ())
  | [], ds, j, ops, h => by
      simp only [mkOps, Except.ok.injEq] at h; subst h; simp
  | m :: ms, ds, j, ops, h => by
      simp only [mkOps] at h
      -- each call stage of the model hands an error on by a `match` of its own, so no shared lemma can invert them: here and
      -- below the stages are peeled one `split` (or `cases`) at a time
      split at h
      · cases h
      · rename_i d hd
        split at h
        · cases h
        · rename_i hc
          split at h
          · cases h
          · rename_i rest hrest
            simp only [Except.ok.injEq] at h
            subst h
            obtain ⟨h1, h2, h3⟩ := mkOps_spec i dur ms ds.tail (j + 1) rest hrest
            refine ⟨by simp [h1], by simp [h2, List.range'_succ, Operation.ident], ?_⟩
            intro o ho
            rcases List.mem_cons.mp ho with rfl | ho
            · exact ⟨rfl, hc⟩
            · exact h3 o ho

theorem mkJob_spec (nMachines : Nat) (amount : VD Rat) (dur : VD Int) (i : Nat) (d : JobDraws) (j : Job)
    (h : mkJob nMachines amount dur i d = .ok j) :
    ∃ ops, mkOps i dur d.shuffled d.durs 0 = .ok ops ∧ j = { name := jobName i, ops := ops } ∧ checkJob j = .ok () := by
  unfold mkJob at h
  cases hgv : getValue amount d.amount with
  | error e => simp only [hgv] at h; cases h
  | ok a =>
    simp only [hgv] at h
    split at h
    · cases h
    · split at h
      · cases h
      · cases hops : mkOps i dur d.shuffled d.durs 0 with
        | error e => simp only [hops] at h; cases h
        | ok ops =>
          simp only [hops] at h
          split at h
          · cases h
          · cases hcj : checkJob { name := jobName i, ops := ops } with
            | error e => simp only [hcj] at h; cases h
            | ok u =>
              simp only [hcj, Except.ok.injEq] at h
              exact ⟨ops, rfl, h.symm, h ▸ hcj⟩

theorem mkJob_ops (nMachines : Nat) (amount : VD Rat) (dur : VD Int) (i : Nat) (d : JobDraws) (j : Job)
    (h : mkJob nMachines amount dur i d = .ok j) :
    ∀ o ∈ j.ops, (∃ k ∈ d.shuffled, o.machine = machineName k) ∧ checkOperation o = .ok () := by
  obtain ⟨ops, hops, rfl, _⟩ := mkJob_spec nMachines amount dur i d j h
  obtain ⟨hm, _, hall⟩ := mkOps_spec i dur _ _ 0 ops hops
  intro o ho
  have : o.machine ∈ d.shuffled.map machineName := hm ▸ List.mem_map_of_mem ho
  obtain ⟨k, hk, hke⟩ := List.mem_map.mp this
  exact ⟨⟨k, hk, hke.symm⟩, (hall o ho).2⟩

theorem mkJobs_wf (nMachines : Nat) (amount : VD Rat) (dur : VD Int) : ∀ (ds : List JobDraws) (i : Nat) (js : List Job),
    mkJobs nMachines amount dur ds i = .ok js →
      ∀ j ∈ js, (∀ o ∈ j.ops, o.machine ≠ "" ∧ WFOperation o) ∧ WFJob j
  | [], i, js, h => by
      simp only [mkJobs, Except.ok.injEq] at h
      subst h
      exact fun j hj => nomatch hj
  | d :: ds, i, js, h => by
      simp only [mkJobs] at h
      cases hj0 : mkJob nMachines amount dur i d with
      | error e => simp only [hj0] at h; cases h
      | ok j0 =>
        simp only [hj0] at h
        cases hrest : mkJobs nMachines amount dur ds (i + 1) with
        | error e => simp only [hrest] at h; cases h
        | ok rest =>
          simp only [hrest, Except.ok.injEq] at h
          subst h
          intro j hjm
          rcases List.mem_cons.mp hjm with rfl | hjm
          · obtain ⟨_, _, _, hcj⟩ := mkJob_spec nMachines amount dur i d _ hj0
            refine ⟨fun o ho => ?_, (checkJob_ok_iff _).mp hcj⟩
            obtain ⟨⟨k, _, hk⟩, hco⟩ := mkJob_ops nMachines amount dur i d _ hj0 o ho
            exact ⟨hk ▸ machineName_ne k, (checkOperation_ok_iff o).mp hco⟩
          · exact mkJobs_wf nMachines amount dur ds (i + 1) rest hrest j hjm

/-- **whatever the constructor returns is well-formed** (accepted by the validators of `problem_instances.py`) -/
theorem randomInstance_accepted (name : String) (nMachines : Nat) (amount : VD Rat) (dur : VD Int) (draws : List JobDraws)
    (inst : Instance) (h : randomInstance name nMachines amount dur draws = .ok inst) : buildInstance inst = .ok () := by
  unfold randomInstance at h
  cases hjobs : mkJobs nMachines amount dur draws 0 with
  | error e => simp only [hjobs] at h; cases h
  | ok jobs =>
    simp only [hjobs] at h
    cases hci : checkInstance { name := name, machines := (List.range nMachines).map machineName, jobs := jobs } with
    | error e => simp only [hci] at h; cases h
    | ok u =>
      simp only [hci, Except.ok.injEq] at h
      subst h
      rw [accepted_iff_wellformed]
      refine ⟨?_, mkJobs_wf nMachines amount dur draws 0 jobs hjobs, (checkInstance_ok_iff _).mp hci⟩
      intro m hm
      obtain ⟨k, _, hk⟩ := List.mem_map.mp hm
      rw [← hk]; exact machineName_ne k

/-- the values a `_get_value` call can return -/
def vals {α} : VD α → List α
  | .val x => [x]
  | .dist ks _ => ks

/-- a distribution argument is valid: its probabilities add up to one -/
def DistOk {α} : VD α → Prop
  | .val _ => True
  | .dist _ ws => sumsToOne ws = true

/-- a draw fits a `_get_value` call: an index into the keys when a distribution is given -/
def DrawFits {α} : VD α → Option Nat → Prop
  | .val _, _ => True
  | .dist ks _, x => ∃ i, x = some i ∧ i < ks.length

theorem getValue_ok {α} (v : VD α) (x : Option Nat) (hd : DistOk v) (hx : DrawFits v x) :
    ∃ a, getValue v x = .ok a ∧ a ∈ vals v := by
  cases v with
  | val a => exact ⟨a, rfl, by simp [vals]⟩
  | dist ks ws =>
    obtain ⟨i, rfl, hi⟩ := hx
    simp only [DistOk] at hd
    refine ⟨ks[i], ?_, by simp [vals]⟩
    simp [getValue, hd, List.getElem?_eq_getElem hi]

structure ArgsOk (nMachines : Nat) (amount : VD Rat) (dur : VD Int) : Prop where
  amountDist : DistOk amount
  durDist : DistOk dur
  /-- every possible amount gives between one operation and one per machine -/
  amountRange : ∀ a ∈ vals amount, 1 ≤ pyRound (a * (nMachines : Rat)) ∧ pyRound (a * (nMachines : Rat)) ≤ (nMachines : Int)
  durPos : ∀ d ∈ vals dur, 0 < d

/-- the draws of one job are what `choices` / `sample` / `shuffle` can deliver -/
structure DrawsOk (nMachines : Nat) (amount : VD Rat) (dur : VD Int) (d : JobDraws) : Prop where
  amountFits : DrawFits amount d.amount
  sampleLen : ∀ a, getValue amount d.amount = .ok a → d.sample.length = (pyRound (a * (nMachines : Rat))).toNat
  sampleNodup : d.sample.Nodup
  sampleLt : ∀ m ∈ d.sample, m < nMachines
  shuffledPerm : d.shuffled.Perm d.sample
  dursLen : d.durs.length = d.shuffled.length
  dursFit : ∀ x ∈ d.durs, DrawFits dur x

theorem mkOps_total (i : Nat) (dur : VD Int) (hd : DistOk dur) (hpos : ∀ d ∈ vals dur, 0 < d) :
    ∀ (ms : List Nat) (ds : List (Option Nat)) (j : Nat), ds.length = ms.length → (∀ x ∈ ds, DrawFits dur x) →
      ∃ ops, mkOps i dur ms ds j = .ok ops
  | [], ds, j, _, _ => ⟨[], rfl⟩
  | m :: ms, x :: ds, j, hl, hf => by
      obtain ⟨d, hgd, hdm⟩ := getValue_ok dur x hd (hf x (by simp))
      obtain ⟨rest, hrest⟩ := mkOps_total i dur hd hpos ms ds (j + 1) (by simpa using hl) (fun y hy => hf y (by simp [hy]))
      have hco : checkOperation { name := opName j, jobName := jobName i, machine := machineName m, dur := d } = .ok () := by
        rw [checkOperation_ok_iff]
        exact ⟨opName_ne j, jobName_ne i, hpos d hdm⟩
      refine ⟨{ name := opName j, jobName := jobName i, machine := machineName m, dur := d } :: rest, ?_⟩
      simp only [mkOps, List.headD_cons, hgd, hco, List.tail_cons, hrest]

theorem mkJob_total (nMachines : Nat) (amount : VD Rat) (dur : VD Int) (ha : ArgsOk nMachines amount dur) (i : Nat) (d : JobDraws)
    (hd : DrawsOk nMachines amount dur d) : ∃ j, mkJob nMachines amount dur i d = .ok j := by
  obtain ⟨a, hga, ham⟩ := getValue_ok amount d.amount ha.amountDist hd.amountFits
  obtain ⟨hk1, hk2⟩ := ha.amountRange a ham
  have hsl := hd.sampleLen a hga
  have hshl : d.shuffled.length = d.sample.length := hd.shuffledPerm.length_eq
  obtain ⟨ops, hops⟩ := mkOps_total i dur ha.durDist ha.durPos d.shuffled d.durs 0 hd.dursLen hd.dursFit
  obtain ⟨hm, hn, hall⟩ := mkOps_spec i dur _ _ 0 ops hops
  have hlen : ops.length = d.shuffled.length := by
    have := congrArg List.length hm; simpa using this
  have hpos : ops.length ≠ 0 := by rw [hlen, hshl, hsl]; omega
  have hne : ops ≠ [] := fun h0 => hpos (by rw [h0]; rfl)
  -- identifiers: job name ++ "_" ++ operation name, operation names are op0, op1, …
  have hident : (ops.map Operation.ident).Nodup := by
    rw [hn]
    exact nodup_map_of_inj _ (fun x y hxy => opName_inj ((String.append_right_inj _).mp hxy)) _ List.nodup_range'
  -- machines: the shuffled sample, which has no repetition
  have hmach : (ops.map Operation.machine).Nodup := by
    rw [hm]
    exact nodup_map_of_inj _ (fun x y hxy => machineName_inj hxy) _ (hd.shuffledPerm.nodup_iff.mpr hd.sampleNodup)
  have hwf : WFJob { name := jobName i, ops := ops } := ⟨jobName_ne i, hne, hident, fun o ho => (hall o ho).1, hmach⟩
  have hcj := (checkJob_ok_iff _).mpr hwf
  refine ⟨{ name := jobName i, ops := ops }, ?_⟩
  unfold mkJob
  simp only [hga]
  rw [if_neg (by omega), if_neg (by omega)]
  simp only [hops]
  rw [if_neg hpos]
  simp only [hcj]

theorem mkJobs_total (nMachines : Nat) (amount : VD Rat) (dur : VD Int) (ha : ArgsOk nMachines amount dur) :
    ∀ (ds : List JobDraws) (i : Nat), (∀ d ∈ ds, DrawsOk nMachines amount dur d) →
      ∃ js, mkJobs nMachines amount dur ds i = .ok js ∧ js.map Job.name = (List.range' i ds.length).map jobName ∧
        ∀ j ∈ js, ∀ o ∈ j.ops, o.machine ∈ (List.range nMachines).map machineName
  | [], i, _ => ⟨[], rfl, by simp, by intro j hj; cases hj⟩
  | d :: ds, i, h => by
      obtain ⟨j0, hj0⟩ := mkJob_total nMachines amount dur ha i d (h d (by simp))
      obtain ⟨rest, hrest, hnames, hmach⟩ := mkJobs_total nMachines amount dur ha ds (i + 1) (fun x hx => h x (by simp [hx]))
      have hname : j0.name = jobName i := by obtain ⟨_, _, rfl, _⟩ := mkJob_spec nMachines amount dur i d _ hj0; rfl
      have hops := mkJob_ops nMachines amount dur i d _ hj0
      refine ⟨j0 :: rest, by simp only [mkJobs, hj0, hrest], by simp [hname, hnames, List.range'_succ], ?_⟩
      intro j hj o ho
      rcases List.mem_cons.mp hj with rfl | hj
      · obtain ⟨⟨k, hk, hke⟩, _⟩ := hops o ho
        have hlt := (h d (by simp)).sampleLt k (((h d (by simp)).shuffledPerm.mem_iff).mp hk)
        exact List.mem_map.mpr ⟨k, List.mem_range.mpr hlt, hke.symm⟩
      · exact hmach j hj o ho

/-- **for valid arguments the constructor never raises, whatever the seed**: with distributions that add up to one, positive
durations, amounts that give between one operation and one per machine, and draws that `choices` / `sample` / `shuffle` can
deliver, an instance is returned (job identifiers never collide, no machine is visited twice, all machines are declared) — and
by `randomInstance_accepted` it is well-formed -/
theorem randomInstance_total (name : String) (hname : name ≠ "") (nMachines : Nat) (amount : VD Rat) (dur : VD Int)
    (ha : ArgsOk nMachines amount dur) (draws : List JobDraws) (hd : ∀ d ∈ draws, DrawsOk nMachines amount dur d) :
    ∃ inst, randomInstance name nMachines amount dur draws = .ok inst ∧ buildInstance inst = .ok () := by
  obtain ⟨jobs, hjobs, hnames, hmach⟩ := mkJobs_total nMachines amount dur ha draws 0 hd
  have hci : checkInstance { name := name, machines := (List.range nMachines).map machineName, jobs := jobs } = .ok () := by
    rw [checkInstance_ok_iff]
    refine ⟨hname, ?_, ?_, hmach⟩
    · exact nodup_map_of_inj _ (fun x y hxy => machineName_inj hxy) _ List.nodup_range
    · simp only
      rw [hnames]
      exact nodup_map_of_inj _ (fun x y hxy => jobName_inj hxy) _ List.nodup_range'
  have hr : randomInstance name nMachines amount dur draws =
      .ok { name := name, machines := (List.range nMachines).map machineName, jobs := jobs } := by
    unfold randomInstance
    simp only [hjobs, hci]
  exact ⟨_, hr, randomInstance_accepted _ _ _ _ _ _ hr⟩

-- 2 jobs on 3 machines, amount distribution {1/3: ½, 1: ½} (1 resp. 3 operations), durations {1: ½, 2: ½}
def exAmount : VD Rat := .dist [1 / 3, 1] [1 / 2, 1 / 2]
def exDur : VD Int := .dist [1, 2] [1 / 2, 1 / 2]
def exDraws : List JobDraws :=
  [{ amount := some 1, sample := [2, 0, 1], shuffled := [0, 2, 1], durs := [some 0, some 1, some 0] },
   { amount := some 0, sample := [1], shuffled := [1], durs := [some 1] }]
example : (match randomInstance "i" 3 exAmount exDur exDraws with
    | .ok inst => decide (inst.jobs.map (fun j => j.ops.map (fun o => (o.machine, o.dur))) =
        [[("m0", 1), ("m2", 2), ("m1", 1)], [("m1", 2)]])
    | .error _ => false) = true := by decide +kernel
-- half to even: 0.5 · 3 = 1.5 → 2 operations, 2.5 → 2
example : pyRound (3 / 2) = 2 ∧ pyRound (5 / 2) = 2 ∧ pyRound (7 / 2) = 4 ∧ pyRound (102 / 100) = 1 := by decide +kernel
-- more operations than machines: the documented failure of `sample`
example : (match randomInstance "i" 2 (.val 2) (.val 1) [{ sample := [], shuffled := [] }] with
    | .error .sampleError => true | _ => false) = true := by decide +kernel

end QVerif.RandInst
