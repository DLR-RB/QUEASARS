import QVerif.Props.C01
import QVerif.Props.C14

/-!
# C01 ∘ C14 — the objective of a measured distribution of feasible schedules

The evaluators hand the aggregation (C14) a distribution over measured bitstrings, each valued with the Hamiltonian's
eigenvalue (C01).  If every sampled bitstring decodes to a feasible schedule, the exact CVaR of that distribution — for every
tail fraction — lies in `[0, W]`, the band C01 reserves for feasible schedules; so a sampled objective above `W` witnesses an
infeasible sample.
-/

namespace QVerif.Encoder

open QVerif.Cvar

def energyDist (pen : Penalties) (inst : EInst) (vars : List (List Var)) (limit : Nat) (ms : List (Bits × Rat)) : Dist :=
  ms.map (fun m => (m.2, energyOf pen inst vars limit m.1))

/-- **feasible samples give an objective in `[0, W]`** -/
theorem cvar_of_feasible_samples (pen : Penalties) (hr : Regime pen) (inst : EInst) (limit : Nat) (vars : List (List Var))
    (h : prepare inst limit = .ok vars) (ms : List (Bits × Rat)) (alpha : Rat) (h0 : 0 < alpha) (h1 : alpha ≤ 1)
    (hprob : ∀ m ∈ ms, 0 ≤ m.2) (hmass : mass (energyDist pen inst vars limit ms) = 1)
    (hfeas : ∀ m ∈ ms, m.1.length = nQubits vars ∧
      (∀ x ∈ (opVars inst vars).flatten, (decodeVar x.var m.1).isSome = true) ∧
      nPrecViolated (opVars inst vars) m.1 = 0 ∧ nOvlViolated (opVars inst vars) m.1 = 0) :
    0 ≤ cvarExact (energyDist pen inst vars limit ms) alpha ∧ cvarExact (energyDist pen inst vars limit ms) alpha ≤ pen.opt := by
  have hn : NonnegProbs (energyDist pen inst vars limit ms) := List.forall_mem_map.mpr hprob
  have hvals : ∀ x ∈ energyDist pen inst vars limit ms, 0 ≤ x.2 ∧ x.2 ≤ pen.opt := List.forall_mem_map.mpr fun m hm =>
    let ⟨hl, ha, hp, ho⟩ := hfeas m hm
    energy_feasible pen hr inst limit vars h m.1 hl ha hp ho
  constructor
  · exact cvar_ge_min _ alpha 0 hn h0 (by rw [hmass]; exact h1) (fun x hx => (hvals x hx).1)
  · have h2 := cvar_le_expectation _ alpha hn hmass h0 h1
    have h3 := plainExpectation_le pen.opt _ hn (fun x hx => (hvals x hx).2)
    rw [hmass] at h3
    grind

end QVerif.Encoder
