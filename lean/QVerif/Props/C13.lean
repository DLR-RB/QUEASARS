import QVerif.Lemmas.Criteria

/-!
# C13 — convergence criteria decide by the magnitude of the documented change

For every criterion: the documented change measure between consecutive evaluations, and
`answer_iff`: the criterion answers *terminate* at step `k` **iff** at least `allowed + 1` measures exist
and each of the last `allowed + 1` of them is below the threshold (`WindowBelow`).
Measures are magnitudes (`rabs`); relative measures divide by the magnitude of the reference value and are
`+∞` (never below a threshold) when the reference is zero.  The model functions are total (never raise).
-/

namespace QVerif.Criteria

/-- |Δ best| -/
def mBest (p : Rat) (e : Eval) : ERat := some (rabs (p - e.best))
/-- |Δ best| / |previous best| -/
def mBestRel (p : Rat) (e : Eval) : ERat := relChange (rabs (p - e.best)) p
/-- max(median Hausdorff distance, |Δ best|) -/
def mPop (l e : Eval) : ERat := some (popMeasure l e)
/-- the same, relative to |median of the previous generation| -/
def mPopRel (l e : Eval) : ERat := popRelMeasure l e

/-- `rabs` is a magnitude: never negative (the relative measures are `+∞` exactly for a zero reference, `relChange_eq`) -/
theorem rabs_nonneg (x : Rat) : 0 ≤ rabs x := by unfold rabs; split <;> grind

theorem relChange_eq (c r : Rat) : relChange c r = if r = 0 then none else some (c / rabs r) := rfl

theorem bestChange_answer_iff (allowed : Nat) (thr : Rat) (evals : List Eval) (k : Nat)
    (hk : k < (runCrit (bestChangeCheck allowed thr) {} evals).length) :
    (runCrit (bestChangeCheck allowed thr) {} evals)[k] = true ↔
      WindowBelow (measures (·.best) mBest (evals.take (k + 1))) allowed thr := by
  have hstep : StepLike (bestChangeCheck allowed thr) (·.best) mBest BestState.prev BestState.hist allowed thr [] :=
    fun s e => by unfold bestChangeCheck; cases hp : s.prev <;> simp [mBest, decide_]
  exact answer_iff (n := 0) hstep rfl rfl evals k hk

theorem bestRelChange_answer_iff (allowed : Nat) (thr : Rat) (evals : List Eval) (k : Nat)
    (hk : k < (runCrit (bestRelChangeCheck allowed thr) {} evals).length) :
    (runCrit (bestRelChangeCheck allowed thr) {} evals)[k] = true ↔
      WindowBelow (measures (·.best) mBestRel (evals.take (k + 1))) allowed thr := by
  have hstep : StepLike (bestRelChangeCheck allowed thr) (·.best) mBestRel BestState.prev BestState.hist allowed thr [] :=
    fun s e => by unfold bestRelChangeCheck; cases hp : s.prev <;> simp [mBestRel, decide_]
  exact answer_iff (n := 0) hstep rfl rfl evals k hk

theorem popChange_answer_iff (allowed : Nat) (thr : Rat) (evals : List Eval) (k : Nat)
    (hk : k < (runCrit (popChangeCheck allowed thr) (popInit allowed) evals).length) :
    (runCrit (popChangeCheck allowed thr) (popInit allowed) evals)[k] = true ↔
      WindowBelow (measures id mPop (evals.take (k + 1))) allowed thr := by
  have hstep : StepLike (popChangeCheck allowed thr) id mPop PopState.last PopState.hist allowed thr
      (List.replicate (allowed + 1) none) :=
    -- `+contextual`: at the first evaluation the answer is `decide_ s.hist`, and `s.hist` is the pre-fill by that branch's hypothesis
    fun s e => by unfold popChangeCheck; cases hp : s.last <;> simp +contextual [mPop]
  exact answer_iff hstep rfl rfl evals k hk

theorem popRelChange_answer_iff (allowed : Nat) (thr : Rat) (evals : List Eval) (k : Nat)
    (hk : k < (runCrit (popRelChangeCheck allowed thr) (popInit allowed) evals).length) :
    (runCrit (popRelChangeCheck allowed thr) (popInit allowed) evals)[k] = true ↔
      WindowBelow (measures id mPopRel (evals.take (k + 1))) allowed thr := by
  have hstep : StepLike (popRelChangeCheck allowed thr) id mPopRel PopState.last PopState.hist allowed thr
      (List.replicate (allowed + 1) none) :=
    fun s e => by unfold popRelChangeCheck; cases hp : s.last <;> simp +contextual [mPopRel]
  exact answer_iff hstep rfl rfl evals k hk

/-- plain threshold criterion: terminate iff the generation's best value is below the threshold -/
theorem threshold_answer_iff (thr : Rat) (e : Eval) : thresholdCheck thr e = true ↔ e.best < thr := by
  simp [thresholdCheck]

/-- the window condition never holds for a negative or zero threshold when no finite measure is negative (`hms`;
the documented measures are magnitudes) — with `*_answer_iff`, a criterion whose measures satisfy `hms` then never
terminates, in particular not at the first check -/
theorem windowBelow_nonpos_threshold (ms : List ERat) (allowed : Nat) (thr : Rat) (hthr : thr ≤ 0)
    (hms : ∀ x ∈ ms, ∀ v, x = some v → 0 ≤ v) : ¬ WindowBelow ms allowed thr := by
  rintro ⟨hlen, hall⟩
  obtain ⟨x, hx⟩ := List.exists_mem_of_ne_nil _ (window_ne_nil hlen)
  have h1 := hall x hx
  have h2 := hms x (List.mem_of_mem_drop hx)
  cases x with
  | none => simp at h1
  | some v =>
    have := h2 v rfl
    simp only [ERat.lt_some, decide_eq_true_eq] at h1
    grind

/-! ## `reset_state`: the answers afterwards depend only on the new history

`reset_state` re-establishes exactly the constructor's state, so the run after a reset *is* the run of a fresh
criterion (the theorems above then apply to the new history alone). -/

def bestReset (_ : BestState) : BestState := { prev := none, hist := [] }
def popReset (allowed : Nat) (_ : PopState) : PopState :=
  { last := none, hist := List.replicate (allowed + 1) none }

theorem best_reset_forgets (allowed : Nat) (thr : Rat) (s : BestState) (evals : List Eval) :
    runCrit (bestChangeCheck allowed thr) (bestReset s) evals = runCrit (bestChangeCheck allowed thr) {} evals ∧
    runCrit (bestRelChangeCheck allowed thr) (bestReset s) evals = runCrit (bestRelChangeCheck allowed thr) {} evals :=
  ⟨rfl, rfl⟩

theorem pop_reset_forgets (allowed : Nat) (thr : Rat) (s : PopState) (evals : List Eval) :
    runCrit (popChangeCheck allowed thr) (popReset allowed s) evals =
      runCrit (popChangeCheck allowed thr) (popInit allowed) evals ∧
    runCrit (popRelChangeCheck allowed thr) (popReset allowed s) evals =
      runCrit (popRelChangeCheck allowed thr) (popInit allowed) evals :=
  ⟨rfl, rfl⟩

/-- **implicit reset**: a callback whose `nfev` does not exceed the previous one (the first callback of a new
optimiser run — also when it is *equal*, as for consecutive `maxiter = 1` runs), or any callback after the
checker has answered *terminate* by convergence, is treated exactly as by a fresh checker: same answer, same
resulting state. -/
theorem spsa_new_run_forgets (allowed : Nat) (thr : Rat) (maxfev : Option Nat) (s : SpsaState) (c : SpsaCall)
    (hnew : s.done = true ∨ c.nfev ≤ s.nfev) :
    spsaCheck allowed thr maxfev s c = spsaCheck allowed thr maxfev {} c := by
  have h2 : spsaEnter {} c = {} := by
    unfold spsaEnter
    split <;> rfl
  unfold spsaCheck
  rw [spsaEnter_new hnew, h2]

/-- the whole remaining stream is answered as by a fresh checker -/
theorem spsa_new_run_forgets_stream (allowed : Nat) (thr : Rat) (maxfev : Option Nat) (s : SpsaState) (c : SpsaCall)
    (rest : List SpsaCall) (hnew : s.done = true ∨ c.nfev ≤ s.nfev) :
    runSpsa allowed thr maxfev s (c :: rest) = runSpsa allowed thr maxfev {} (c :: rest) := by
  simp only [runSpsa]
  rw [spsa_new_run_forgets allowed thr maxfev s c hnew]

/-- relative change between accepted function values, by the magnitude of the previous value -/
def spsaMeasure (p v : Rat) : ERat := if p = 0 then none else some (rabs (v - p) / rabs p)

def valueMeasures : List Rat → List ERat
  | a :: b :: t => spsaMeasure a b :: valueMeasures (b :: t)
  | _ => []

theorem valueMeasures_eq : ∀ vs : List Rat,
    valueMeasures vs = measures Eval.best (fun p e => spsaMeasure p e.best) (vs.map (fun v => ⟨[], v⟩))
  | [] => rfl
  | [_] => rfl
  | a :: b :: t => by simp only [valueMeasures, List.map_cons, measures, valueMeasures_eq (b :: t)]

theorem valueMeasures_snoc (p : List Rat) (v : Rat) :
    valueMeasures (p ++ [v]) = valueMeasures p ++
      (match p.getLast? with | none => [] | some l => [spsaMeasure l v]) := by
  rw [valueMeasures_eq, valueMeasures_eq, List.map_append, List.map_singleton, measures_snoc, List.getLast?_map]
  cases p.getLast? <;> rfl

theorem spsaBody_none (allowed : Nat) (thr : Rat) (s : SpsaState) (c : SpsaCall)
    (hinv : s.changes = valueMeasures s.values) :
    (spsaBody allowed thr none s c).2 = (c.accepted && decide_ (valueMeasures (s.values ++ [c.value])) allowed thr) ∧
    (spsaBody allowed thr none s c).1.changes = valueMeasures (spsaBody allowed thr none s c).1.values := by
  unfold spsaBody
  cases hacc : c.accepted with
  | false => simp [hinv]
  | true =>
    simp only [Bool.false_eq_true, ↓reduceIte, Bool.not_true, Bool.true_and, hinv]
    cases hl : s.values.getLast? with
    | none => simp [List.getLast?_eq_none_iff.mp hl, valueMeasures, decide_]
    | some p =>
      have hsn : valueMeasures (s.values ++ [c.value]) = valueMeasures s.values ++ [spsaMeasure p c.value] := by
        rw [valueMeasures_snoc, hl]
      have hm' : (if p = 0 then (none : ERat) else some (rabs (c.value - p) / rabs p)) = spsaMeasure p c.value := rfl
      simp only [hm', decide_, hsn]
      -- `spsaBody` inlines the two tests of `decide_` (window long enough, then its maximum below `thr`): split along them
      split
      · simp [hsn]
      · split <;> simp_all

/-- **SPSA answer within one run.** In a state reached inside a run (not `done`, strictly larger `nfev`,
change history = measures of the accepted values so far), the answer to the next callback is *terminate* iff the
evaluation budget is exhausted, or the step is accepted and the documented window condition holds for the
accepted values including the new one. -/
theorem spsa_answer_iff (allowed : Nat) (thr : Rat) (maxfev : Option Nat) (s : SpsaState) (c : SpsaCall)
    (hrun : s.done = false ∧ s.nfev < c.nfev) (hinv : s.changes = valueMeasures s.values) :
    ((spsaCheck allowed thr maxfev s c).2 = true ↔
      ((∃ m, maxfev = some m ∧ m ≤ c.nfev) ∨
       ((∀ m, maxfev = some m → c.nfev < m) ∧ c.accepted = true ∧
         WindowBelow (valueMeasures (s.values ++ [c.value])) allowed thr))) ∧
    ((spsaCheck allowed thr maxfev s c).1.changes = valueMeasures (spsaCheck allowed thr maxfev s c).1.values) := by
  rw [spsaCheck, spsaEnter_running hrun.1 hrun.2, spsaBody_budget]
  obtain ⟨h1, h2⟩ := spsaBody_none allowed thr s c hinv
  by_cases hb : ∃ m, maxfev = some m ∧ m ≤ c.nfev
  · have : maxfev.any (fun m => decide (m ≤ c.nfev)) = true := by simpa [Option.any_eq_true] using hb
    simp [this, hb, hinv]
  · have : maxfev.any (fun m => decide (m ≤ c.nfev)) = false := by
      simpa [← Bool.not_eq_true, Option.any_eq_true] using hb
    have hlt : ∀ m, maxfev = some m → c.nfev < m := fun m hm => Nat.lt_of_not_le fun hle => hb ⟨m, hm, hle⟩
    simp only [this, Bool.false_eq_true, ↓reduceIte, h1, h2, hb, false_or, Bool.and_eq_true, decide_iff_plain, and_true]
    exact ⟨fun h => ⟨hlt, h⟩, fun h => h.2⟩

/-! ## Non-vacuity and the repaired findings as regression examples -/

/-- negative values: [-10,-8] → [-5,-1] is a large relative change (F8 answered terminate) -/
example : runCrit (popRelChangeCheck 0 (1/10)) (popInit 0)
    [⟨[-10, -8], -10⟩, ⟨[-5, -1], -5⟩] = [false, false] := by decide +kernel
/-- a genuinely small change does terminate -/
example : runCrit (popRelChangeCheck 0 (1/10)) (popInit 0)
    [⟨[-10, -8], -10⟩, ⟨[-10, -8], -10⟩] = [false, true] := by decide +kernel
/-- negative threshold: never terminates at the first check (F10) -/
example : runCrit (popChangeCheck 0 (-1)) (popInit 0) [⟨[1, 2], 1⟩, ⟨[1, 2], 1⟩] = [false, false] := by decide +kernel
/-- zero reference value: no exception, counts as infinitely large (F8) -/
example : runCrit (bestRelChangeCheck 0 (1/2)) {} [⟨[0], 0⟩, ⟨[0], 0⟩, ⟨[1], 1⟩] = [false, false, false] := by decide +kernel
/-- SPSA: three maxiter=1 runs, each reporting nfev = 2 (F9): no cross-run change is seen -/
example : runSpsa 0 (1/10) none {} [⟨2, 5, true⟩, ⟨2, 5, true⟩, ⟨2, 5, true⟩] = [false, false, false] := by decide +kernel
/-- SPSA: negative values (F8) -/
example : runSpsa 0 (1/10) none {} [⟨2, -10, true⟩, ⟨4, -5, true⟩] = [false, false] := by decide +kernel
example : runSpsa 0 (1/10) none {} [⟨2, -10, true⟩, ⟨4, -10, true⟩] = [false, true] := by decide +kernel

end QVerif.Criteria
