import QVerif.Lemmas.Solver

/-!
# C05 — the solver result is consistent with its own evaluation history

The *script* (estimates, callback events, criterion answers) is arbitrary, so the theorems hold for every
configuration and every way the evolution can unfold.  "In every recorded evaluation the value at index `i` belongs to
individual `i` and the best entry is the one at the model's `argmin` of the values" is `selection_spec` (C10); "re-evaluating the best individual
reproduces the eigenvalue" follows from C04 for an evaluator that is a function of the bound circuit.
-/

namespace QVerif.Solver

/-- the running best is the FIRST entry of the history attaining the minimum value: the history splits into entries
strictly above the best value, the best entry, and entries not below it -/
theorem best_is_first_min : ∀ (hist : List (Nat × Rat)) (acc : Option (Nat × Rat)) (b : Nat) (v : Rat),
    hist.foldl upd acc = some (b, v) →
    (acc = some (b, v) ∧ ∀ e ∈ hist, v ≤ e.2) ∨
    (∃ pre post, hist = pre ++ (b, v) :: post ∧ (∀ e ∈ pre, v < e.2) ∧ (∀ e ∈ post, v ≤ e.2) ∧
      ∀ a, acc = some a → v < a.2)
  | [], acc, b, v, h => Or.inl ⟨h, nofun⟩
  | e :: t, acc, b, v, h => by
      rcases best_is_first_min t (upd acc e) b v h with ⟨hu, ht⟩ | ⟨pre, post, rfl, hpre, hpost, hacc⟩
      · -- the best after `e` survives the tail: it is `e` itself, or the old one, which `e` does not beat
        rcases upd_cases acc e with ⟨he, hlt⟩ | ⟨he, a, ha, hle⟩
        · obtain rfl : e = (b, v) := Option.some.inj (he.symm.trans hu)
          exact Or.inr ⟨[], t, rfl, nofun, ht, hlt⟩
        · obtain rfl : a = (b, v) := Option.some.inj (ha.symm.trans (he.symm.trans hu))
          exact Or.inl ⟨ha, List.forall_mem_cons.mpr ⟨hle, ht⟩⟩
      · -- the best comes later and beats the best after `e`, hence `e` and the old one
        refine Or.inr ⟨e :: pre, post, rfl, ?_, hpost, ?_⟩
        · rcases upd_cases acc e with ⟨he, _⟩ | ⟨he, a, ha, hle⟩
          · exact List.forall_mem_cons.mpr ⟨hacc e he, hpre⟩
          · exact List.forall_mem_cons.mpr ⟨Std.lt_of_lt_of_le (hacc a (he.trans ha)) hle, hpre⟩
        · intro a ha
          rcases upd_cases acc e with ⟨he, hlt⟩ | ⟨he, _⟩
          · exact Std.lt_trans (hacc e he) (hlt a ha)
          · exact hacc a (he.trans ha)

theorem result_consistent (cfg : Cfg) (script : List Step) (r : Result) (started : List St)
    (h : solve cfg script = (.ok r, started)) :
    r.history ≠ [] ∧ r.generations = r.history.length ∧
    (∃ pre post, r.history = pre ++ (r.bestIndividual, r.eigenvalue) :: post ∧
      (∀ e ∈ pre, r.eigenvalue < e.2) ∧ (∀ e ∈ post, r.eigenvalue ≤ e.2)) ∧
    r.measured = r.bestIndividual ∧
    r.circuitEvaluations.length ≤ r.generations + 1 ∧
    r.circuitEvaluations.sum = ((script.take started.length).map (fun st => countsOf st.events)).sum := by
  obtain ⟨sF, b, v, hrun, hb, hne, rfl⟩ := solve_ok h
  obtain ⟨t, hF⟩ := (runLoop_spec hrun).final
  -- the flag is none of the fields the result is built from
  have hafter := sinv_after cfg (script.take started.length)
  have hinv : SInv sF := hF ▸ ⟨hafter.gen, hafter.best, hafter.len⟩
  have hsum : sF.ledger.sum = ((script.take started.length).map (fun st => countsOf st.events)).sum := by
    rw [← countsOf_flatMap, hF]
    simpa using (events_sum cfg ((script.take started.length).flatMap (·.events)) {} sinv_init).1
  refine ⟨hne, hinv.gen, ?_, rfl, hinv.len, hsum⟩
  rcases best_is_first_min sF.hist none b v (hb ▸ hinv.best).symm with ⟨hacc, _⟩ | ⟨pre, post, hsplit, hpre, hpost, _⟩
  · cases hacc
  · exact ⟨pre, post, hsplit, hpre, hpost⟩

/-! ### one ledger entry per evaluated generation (plus at most one trailing entry) -/

/-- every result event is preceded by a count event since the previous result event (`pending` = a count has
been seen since then) — what selection guarantees -/
def WellCounted : Bool → List Ev → Prop
  | _, [] => True
  | _, .count _ :: t => WellCounted true t
  | p, .result _ _ _ :: t => p = true ∧ WellCounted false t

def pendingAfter : Bool → List Ev → Bool
  | p, [] => p
  | _, .count _ :: t => pendingAfter true t
  | _, .result _ _ _ :: t => pendingAfter false t

theorem ledger_length_events (cfg : Cfg) : ∀ (evs : List Ev) (s : St) (p : Bool), SInv s →
    s.ledger.length = s.nGen + (if p then 1 else 0) → WellCounted p evs →
    (evs.foldl (onEvent cfg) s).ledger.length = (evs.foldl (onEvent cfg) s).nGen + (if pendingAfter p evs then 1 else 0)
  | [], s, p, _, hl, _ => by simp only [List.foldl_nil, pendingAfter]; exact hl
  | .count n :: t, s, p, hs, hl, hw => by
      -- `p` tells whether the ledger entry of the generation in preparation exists: `onCount` then adds to it (`set`), otherwise appends it
      apply ledger_length_events cfg t _ true (sinv_event cfg s (.count n) hs) _ hw
      simp only [onEvent, onCount]
      cases p with
      | true =>
        simp only [↓reduceIte] at hl
        have : ¬ (s.ledger.length < s.nGen + 1) := by omega
        simp only [this, ↓reduceIte, List.length_set]; omega
      | false =>
        simp only [Bool.false_eq_true, ↓reduceIte, Nat.add_zero] at hl
        have : s.ledger.length < s.nGen + 1 := by omega
        simp only [this, ↓reduceIte, List.length_append, List.length_cons, List.length_nil]; omega
  | .result b v c :: t, s, p, hs, hl, hw => by
      obtain ⟨hp, hw'⟩ := hw
      subst hp
      apply ledger_length_events cfg t _ false (sinv_event cfg s (.result b v c) hs) _ hw'
      simp only [onEvent, onResult]
      simp [hl]

end QVerif.Solver
