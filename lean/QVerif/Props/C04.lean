import QVerif.Lemmas.GenomeSort
import QVerif.Props.C16

/-!
# C04 — all circuit views of an individual denote the same unitary

A *binding* assigns a value to every parameter slot `(layer, qubit, kind)`.  Which value a gate receives is all
that distinguishes the circuit views (they apply the same gates in the same order), so two views with the same
binding are the same bound gate sequence — equal unitaries for *every* gate semantics, not only up to global phase.
Proved: the bindings of the views are permutations of one another (`views_agree`), and the full binding lists the sorted
slots of the circuit (`full_binds_each_slot_once`). Not proved: that no slot occurs twice, which is what makes a permutation
of bindings the same assignment.

Hypotheses: the individual is valid, has at most 10⁹ layers (the width of the zero-padded layer id in the
parameter names) and its parameter names are pairwise different (`NamesInjective`; Qiskit refuses to build a
circuit with two parameters of the same name, so this holds for every circuit the library can produce).
Trusted about Qiskit: `circuit.parameters` is sorted by name; positional `assign_parameters` follows that order.
-/

namespace QVerif.Genome

def NamesInjective (x : Indiv) : Prop :=
  ∀ s ∈ allSlots x, ∀ t ∈ allSlots x, s.name = t.name → s = t

/-- layer `i` bound on its own with its own values (`get_layer_gate`) -/
def localBinding (x : Indiv) (i : Nat) : Binding :=
  bindPositional (layerSlots i (x.layers.getD i default)) (layerValues x i)

theorem layerSlots_length (i : Nat) (l : Layer) : (layerSlots i l).length = l.nParams := by
  unfold layerSlots Layer.nParams
  induction l.gates with
  | nil => rfl
  | cons g t ih =>
    simp only [List.flatMap_cons, List.length_append, List.map_cons, List.sum_cons, ih]
    cases g <;> simp [Gate.nParams]

theorem allSlots_length (x : Indiv) : (allSlots x).length = totalParams x.layers := by
  unfold allSlots totalParams
  simp only [List.length_flatMap, layerSlots_length]
  rw [map_getD_range]

theorem subset_allSlots (x : Indiv) (is : List Nat) (his : ∀ i ∈ is, i < x.layers.length) :
    ∀ s ∈ is.flatMap (fun i => layerSlots i (x.layers.getD i default)), s ∈ allSlots x := by
  intro s hs
  simp only [List.mem_flatMap] at hs
  obtain ⟨i, hi, hsi⟩ := hs
  simp only [allSlots, List.mem_flatMap, List.mem_range]
  exact ⟨i, his i hi, hsi⟩

theorem bind_selection (x : Indiv) (hv : x.isValid = true) (hlen : x.layers.length ≤ 10 ^ 9) (hinj : NamesInjective x)
    (is : List Nat) (hinc : is.Pairwise (· < ·)) (his : ∀ i ∈ is, i < x.layers.length) :
    bindPositional (is.flatMap (fun i => layerSlots i (x.layers.getD i default))) (is.flatMap (layerValues x)) =
      is.flatMap (localBinding x) := by
  unfold bindPositional
  rw [sort_concat (fun i => x.layers.getD i default) is hinc (fun i hi => by have := his i hi; omega)
    (fun s hs t ht => hinj s (subset_allSlots x is his s hs) t (subset_allSlots x is his t ht))]
  rw [zip_flatMap]
  · rfl
  · intro i hi
    rw [length_sortSlots, layerSlots_length, layerValues_length x (Nat.le_of_eq (isValid_values_length hv).symm) i (his i hi)]

/-- **the fully parameterised circuit bound positionally with all values = every layer bound on its own**
(`get_quantum_circuit()` versus `get_partially_parameterized_quantum_circuit(set())`) -/
theorem full_eq_layerwise (x : Indiv) (hv : x.isValid = true) (hlen : x.layers.length ≤ 10 ^ 9) (hinj : NamesInjective x) :
    bindFull x = (List.range x.layers.length).flatMap (localBinding x) := by
  unfold bindFull allSlots
  have := bind_selection x hv hlen hinj (List.range x.layers.length) List.pairwise_lt_range
    (fun i hi => List.mem_range.mp hi)
  rwa [values_eq_flatMap x (isValid_values_length hv)] at this

/-- **views agree**: for every set `S` of layers left symbolic, binding the non-symbolic layers layer-locally and
the symbolic ones positionally with their concatenated per-layer values gives a permutation of the binding of the
fully bound circuit (that no slot repeats, which would make it the same assignment, is not proved) -/
theorem views_agree (x : Indiv) (S : List Nat) (hv : x.isValid = true) (hlen : x.layers.length ≤ 10 ^ 9)
    (hinj : NamesInjective x) : (bindPartial x S).Perm (bindFull x) := by
  rw [full_eq_layerwise x hv hlen hinj]
  unfold bindPartial
  simp only
  rw [bind_selection x hv hlen hinj ((List.range x.layers.length).filter (fun i => S.contains i))
    (List.pairwise_lt_range.filter _) (fun i hi => List.mem_range.mp (List.mem_filter.mp hi).1)]
  show (((List.range x.layers.length).filter (fun i => !S.contains i)).flatMap (localBinding x) ++ _).Perm _
  rw [← List.flatMap_append]
  exact List.Perm.flatMap_right _
    (List.perm_append_comm.trans (List.filter_append_perm (fun i => S.contains i) (List.range x.layers.length)))

/-- the fully bound circuit binds exactly the parameter slots of the circuit, in their sorted order, one value per occurrence
(that no slot repeats is not proved) -/
theorem full_binds_each_slot_once (x : Indiv) (hv : x.isValid = true) :
    (bindFull x).map Prod.fst = sortSlots (allSlots x) := by
  unfold bindFull bindPositional
  rw [List.map_fst_zip]
  rw [length_sortSlots, allSlots_length, isValid_values_length hv]
  exact Nat.le_refl _

/-- **replacing one layer's values** changes the binding exactly as binding the new values into that layer of the
partially parameterised circuit does, and leaves every other layer's binding untouched -/
theorem change_layer_exact (x y : Indiv) (layerId : Int) (vals : List Val) (hv : x.isValid = true)
    (hlen : x.layers.length ≤ 10 ^ 9) (hinj : NamesInjective x)
    (h : changeLayerParameterValues x layerId vals = .ok y) :
    bindFull y = (List.range x.layers.length).flatMap (fun i =>
      bindPositional (layerSlots i (x.layers.getD i default))
        (if i = normIdx layerId x.layers.length then vals else layerValues x i)) := by
  obtain ⟨hn, hl, hi, hother⟩ := change_layer_only_values x y layerId vals hv h
  have hvy : y.isValid = true := (results_valid x y).2.1 layerId vals h
  have hinjy : NamesInjective y := by
    unfold NamesInjective allSlots at *
    rw [hl]; exact hinj
  rw [full_eq_layerwise y hvy (by rw [hl]; exact hlen) hinjy, hl]
  refine flatMap_congr fun a ha => ?_
  unfold localBinding
  rw [hl]
  split
  · rename_i ha'; rw [ha', hi]
  · rename_i ha'; rw [hother a (List.mem_range.mp ha) ha']

/-! ## Non-vacuity: 2 qubits, 12 layers (more than ten: the case the un-padded names got wrong) -/

def exLayer : Layer := ⟨2, [.rot 0, .rot 1]⟩
def exIndiv : Indiv := ⟨2, List.replicate 12 exLayer, (List.range 72).map (fun n => Int.ofNat n + 1)⟩

#guard exIndiv.isValid
#guard ((allSlots exIndiv).map Slot.name).eraseDups.length = (allSlots exIndiv).length
-- layer 10's parameters come after layer 2's and before layer 11's
#guard (sortSlots (allSlots exIndiv)).map (·.layer) = (List.range 12).flatMap (fun i => List.replicate 6 i)
#guard (bindPartial exIndiv [0, 5, 10]).all (fun p => lookupSlot (bindFull exIndiv) p.1 == some p.2)
#guard (bindPartial exIndiv [0, 5, 10]).length = 72

end QVerif.Genome
