import QVerif.Lemmas.Solver

/-!
# C12 — termination limits are honoured

All statements quantify over every script (every sequence of estimates, callback events and criterion answers).
`started[i]` is the loop state in which the `i`-th operator application was started; `script[i]` is that application.
-/

namespace QVerif.Solver

/-- **No operator is started once a limit is reached or the criterion has answered *terminate*.**  Whenever an
operator is started: the termination flag is not set (so nothing is applied after the criterion said terminate); the
evaluations reported so far are below the budget, and so are the reported evaluations plus the operator's own
estimate when it has one; fewer generations than the maximum have been evaluated. -/
theorem no_start_after_limit (cfg : Cfg) (script : List Step) (o : Outcome) (started : List St)
    (h : solve cfg script = (o, started)) (i : Nat) (h1 : i < started.length) (h2 : i < script.length) :
    (started[i]).terminate = false ∧
    (∀ m, cfg.maxEvals = some m → total started[i] < m ∧ ∀ e, (script[i]).est = some e → total started[i] + (e : Int) < m) ∧
    (∀ g, cfg.maxGen = some g → (started[i]).nGen < g) := by
  obtain ⟨sF, ex, hrun⟩ := solve_run h
  obtain ⟨_, ht, hl⟩ := (runLoop_spec hrun).starts i h1 h2
  exact ⟨ht, limitReached_false hl⟩

/-- consecutive started states: the next one is the previous one after the previous operator's events — so once a
result event made the criterion answer *terminate* (which sets the flag), there is no next application -/
theorem started_chain (cfg : Cfg) (script : List Step) (o : Outcome) (started : List St)
    (h : solve cfg script = (o, started)) (i : Nat) (h1 : i + 1 < started.length) (h2 : i < script.length) :
    started[i + 1] = (script[i]).events.foldl (onEvent cfg) (started[i]'(by omega)) ∧
    ((script[i]).events.foldl (onEvent cfg) (started[i]'(by omega))).terminate = false := by
  obtain ⟨sF, ex, hrun⟩ := solve_run h
  have hsp := runLoop_spec hrun
  have hst := hsp.starts
  have := hsp.len
  obtain ⟨e1, ht, _⟩ := hst (i + 1) h1 (by omega)
  rw [e1, after_take_succ cfg _ _ i h2, ← (hst i (by omega) h2).1] at ht ⊢
  exact ⟨rfl, ht⟩

/-- **never more generations than the maximum** (operators report at most one evaluation result per application, as
all EVQE operators do) -/
theorem gens_le_max (cfg : Cfg) (script : List Step) (r : Result) (started : List St) (g : Nat)
    (h : solve cfg script = (.ok r, started)) (hg : cfg.maxGen = some g)
    (hone : ∀ st ∈ script, resultsOf st.events ≤ 1) : r.generations ≤ g := by
  obtain ⟨sF, b, v, hrun, -, -, rfl⟩ := solve_ok h
  have hsp := runLoop_spec hrun
  have hlen := hsp.len
  obtain ⟨t, hF⟩ := hsp.final
  -- the last application was started with fewer than `g` generations and adds at most one
  cases hn : started.length with
  | zero => rw [hF, hn]; exact Nat.zero_le g
  | succ n =>
    rw [hn] at hlen hF
    obtain ⟨hstart, _, hl⟩ := hsp.starts n (by omega) hlen
    have hlt : (after cfg {} (script.take n)).nGen < g := hstart ▸ (limitReached_false hl).2 g hg
    have hres : resultsOf (script[n]).events ≤ 1 := hone _ (List.getElem_mem hlen)
    have hev := (events_sum cfg (script[n]).events _ (sinv_after cfg (script.take n))).2
    rw [hF, after_take_succ cfg _ _ n hlen]
    show ((script[n]).events.foldl (onEvent cfg) (after cfg {} (script.take n))).nGen ≤ g
    rw [hev]; omega

/-- the termination flag can only be raised by a limit check or by the criterion -/
theorem events_keep_flag (cfg : Cfg) (hc : cfg.hasCriterion = false) : ∀ (evs : List Ev) (s : St),
    (evs.foldl (onEvent cfg) s).terminate = s.terminate
  | [], _ => rfl
  | e :: t, s => by
      simp only [List.foldl_cons]
      rw [events_keep_flag cfg hc t]
      cases e with
      | count n => simp only [onEvent, onCount]; split <;> rfl
      | result b v c => simp [onEvent, onResult, hc]

/-- **exactly the maximum when it is the only limit**: no budget, no criterion, the loop ends (the script suffices)
— then exactly `max_generations` generations have been evaluated -/
theorem exactly_max_when_only_limit (cfg : Cfg) (script : List Step) (r : Result) (started : List St) (g : Nat)
    (h : solve cfg script = (.ok r, started)) (hg : cfg.maxGen = some g) (he : cfg.maxEvals = none)
    (hc : cfg.hasCriterion = false) (hone : ∀ st ∈ script, resultsOf st.events ≤ 1) : r.generations = g := by
  have hle := gens_le_max cfg script r started g h hg hone
  obtain ⟨sF, b, v, hrun, -, -, rfl⟩ := solve_ok h
  have hsp := runLoop_spec hrun
  obtain ⟨t, hF⟩ := hsp.final
  have hstop := hsp.stop
  -- only the generation check can have stopped the loop: no event sets the flag, and the script was not exhausted
  rw [events_keep_flag cfg hc] at hstop
  have hge : g ≤ (after cfg {} (script.take started.length)).nGen := by simpa [limitReached, he, hg] using hstop
  rw [hF] at hle ⊢
  exact Nat.le_antisymm hle hge

/-- **a run that stops before any population was evaluated raises instead of returning a result** -/
theorem raises_if_nothing_evaluated (cfg : Cfg) (script : List Step) (r : Result) (started : List St)
    (h : solve cfg script = (.ok r, started)) : r.history ≠ [] ∧ 1 ≤ r.generations := by
  obtain ⟨sF, b, v, hrun, -, hne, rfl⟩ := solve_ok h
  obtain ⟨t, hF⟩ := (runLoop_spec hrun).final
  refine ⟨hne, ?_⟩
  rw [hF] at hne ⊢
  rw [(sinv_after cfg _).gen]
  exact List.length_pos_iff.mpr hne

/-- **The limits are honoured in runs with failing operators too.**  If the application of `script[k]` raises after having
reported evaluations and results (which may be the very application that reaches a limit), every operator that was started —
including the failing one — was started below every limit and before the criterion answered *terminate*; in particular
nothing is started after the failure. -/
theorem no_start_after_limit_with_faults (cfg : Cfg) (script : List Step) (faultAt : Option Nat) (o : OutcomeF)
    (started : List St) (h : solveF cfg script faultAt = (o, started)) (i : Nat) (h1 : i < started.length)
    (h2 : i < script.length) :
    (started[i]).terminate = false ∧
    (∀ m, cfg.maxEvals = some m → total started[i] < m ∧ ∀ e, (script[i]).est = some e → total started[i] + (e : Int) < m) ∧
    (∀ g, cfg.maxGen = some g → (started[i]).nGen < g) := by
  obtain ⟨n, hn⟩ := solveF_started cfg script faultAt
  rw [h] at hn
  subst hn
  obtain ⟨sF, ex, hrun⟩ := solve_run (o := (solve cfg (script.take n)).1) (started := (solve cfg (script.take n)).2) rfl
  have hlen := (runLoop_spec hrun).len
  have hlim := no_start_after_limit cfg (script.take n) _ _ rfl i h1 (by omega)
  rwa [List.getElem_take] at hlim

/-- a failing operator ends the run: when `script[k]` raises, exactly the applications `0..k` were started -/
theorem fault_stops_run (cfg : Cfg) (script : List Step) (k : Nat) (started : List St)
    (h : solveF cfg script (some k) = (.operatorRaised, started)) : started.length = k + 1 ∧ k < script.length := by
  unfold solveF at h
  simp only at h
  split at h
  · rename_i hc
    simp only [Prod.mk.injEq] at h
    obtain ⟨_, rfl⟩ := h
    exact ⟨hc.2, hc.1⟩
  · simp only [Prod.mk.injEq] at h
    exact absurd h.1 (by intro hh; cases hh)

def exScript : List Step :=
  [⟨some 0, []⟩, ⟨some 4, [.count 4, .result 7 (-1) false]⟩, ⟨none, [.count 9]⟩,
   ⟨some 0, []⟩, ⟨some 4, [.count 4, .result 3 (-2) false]⟩, ⟨none, [.count 5]⟩, ⟨some 0, []⟩, ⟨some 4, []⟩]

-- two generations allowed: two evaluations; the work between them is booked on the generation being prepared
example : (match (solve ⟨some 2, none, false⟩ exScript).1 with
    | .ok r => decide ((r.generations, r.circuitEvaluations, r.bestIndividual) = (2, [4, 13], 3))
    | _ => false) = true := by decide +kernel
-- a budget of 10 evaluations: the second selection (estimate 4, 13 reported) is not started
example : (match (solve ⟨none, some 10, false⟩ exScript).1 with
    | .ok r => decide ((r.generations, r.circuitEvaluations) = (1, [4, 9]))
    | _ => false) = true := by decide +kernel
-- nothing evaluated: raises
example : (match (solve ⟨some 0, none, false⟩ exScript).1 with | .raisedNothingEvaluated => true | _ => false) = true := by
  decide +kernel

-- the second selection (index 4) raises after reporting: the run ends there, 5 applications were started
example : (match solveF ⟨some 2, none, false⟩ exScript (some 4) with
    | (.operatorRaised, st) => decide (st.length = 5) | _ => false) = true := by decide +kernel
-- with a budget of 10 the loop stops before index 4: the fault plays no role
example : (match solveF ⟨none, some 10, false⟩ exScript (some 4) with
    | (.normal (.ok r), _) => decide (r.generations = 1) | _ => false) = true := by decide +kernel

end QVerif.Solver
