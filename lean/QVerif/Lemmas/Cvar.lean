import QVerif.Model.Cvar
import QVerif.Lemmas.Lists

/-! C14: the greedy fill of a value-sorted distribution is the cheapest feasible fill. -/

namespace QVerif.Cvar

def mass : Dist → Rat
  | [] => 0
  | (p, _) :: t => p + mass t

def fillVal : Dist → List Rat → Rat
  | (_, v) :: t, q :: qs => q * v + fillVal t qs
  | _, _ => 0

def qsum : List Rat → Rat
  | [] => 0
  | q :: qs => q + qsum qs

def Feas : Dist → List Rat → Prop
  | [], [] => True
  | (p, _) :: t, q :: qs => 0 ≤ q ∧ q ≤ p ∧ Feas t qs
  | _, _ => False

/-- non-negative probabilities are carried along for the inductions -/
def AllGe (m : Rat) : Dist → Prop
  | [] => True
  | (p, v) :: t => 0 ≤ p ∧ m ≤ v ∧ AllGe m t

def Sorted : Dist → Prop
  | [] => True
  | (p, v) :: t => 0 ≤ p ∧ AllGe v t ∧ Sorted t

def NonnegProbs (l : Dist) : Prop := ∀ x ∈ l, 0 ≤ x.1

theorem le_div_iff {a b c : Rat} (hc : 0 < c) : a ≤ b / c ↔ a * c ≤ b := by
  rw [← Rat.not_lt, ← Rat.not_lt, Rat.div_lt_iff hc]

theorem div_le_iff {a b c : Rat} (hb : 0 < b) : a / b ≤ c ↔ a ≤ c * b := by
  rw [← Rat.not_lt, ← Rat.not_lt, Rat.lt_div_iff hb]

theorem rabs_le {x b : Rat} : rabs x ≤ b ↔ -b ≤ x ∧ x ≤ b := by
  unfold rabs; split <;> grind

theorem rabs_nonneg (x : Rat) : 0 ≤ rabs x := by unfold rabs; split <;> grind

theorem rabs_div_sub_div_le {x y B c : Rat} (hc : 0 < c) (h : rabs (x - y) ≤ B) : rabs (x / c - y / c) ≤ B / c := by
  have hi : 0 ≤ c⁻¹ := Rat.le_of_lt (Rat.inv_pos.mpr hc)
  rw [rabs_le] at h ⊢
  have h1 := Rat.mul_le_mul_of_nonneg_right h.1 hi
  have h2 := Rat.mul_le_mul_of_nonneg_right h.2 hi
  simp only [Rat.div_def]; grind

theorem nonneg_cons {p v : Rat} {t : Dist} : NonnegProbs ((p, v) :: t) ↔ 0 ≤ p ∧ NonnegProbs t :=
  List.forall_mem_cons

theorem allGe_iff {m : Rat} : ∀ {l : Dist}, AllGe m l ↔ NonnegProbs l ∧ ∀ x ∈ l, m ≤ x.2
  | [] => by simp [AllGe, NonnegProbs]
  | (p, v) :: t => by simp only [AllGe, nonneg_cons, List.forall_mem_cons, allGe_iff (l := t)]; grind

theorem allGe_mono {m m' : Rat} (h : m' ≤ m) : ∀ l, AllGe m l → AllGe m' l
  | [], _ => trivial
  | (p, v) :: t, ⟨hp, hv, ht⟩ => ⟨hp, by grind, allGe_mono h t ht⟩

theorem mass_nonneg : ∀ {l : Dist}, NonnegProbs l → 0 ≤ mass l
  | [], _ => Rat.le_refl
  | (p, v) :: t, hn => by
      have := mass_nonneg (nonneg_cons.mp hn).2
      simp only [mass]; grind [nonneg_cons]

/-- one step of the fill at two masses `a ≤ b`: both the part taken here and the part left over grow -/
theorem fill_step_mono {a b : Rat} (p : Rat) (hab : a ≤ b) :
    0 ≤ min b p - min a p ∧ 0 ≤ a - min a p ∧ a - min a p ≤ b - min b p := by grind

/-- the greedy fill has slope ≥ `m` in the mass -/
theorem greedy_sub_ge (m : Rat) : ∀ (l : Dist) (a b : Rat), AllGe m l → 0 ≤ a → a ≤ b → b ≤ mass l →
    (b - a) * m ≤ greedy l b - greedy l a
  | [], a, b, _, ha, hab, hb => by
      simp only [mass] at hb
      have : b - a = 0 := by grind
      simp only [greedy, this, Rat.zero_mul]; grind
  | (p, v) :: t, a, b, ⟨hp, hv, ht⟩, ha, hab, hb => by
      simp only [greedy, mass] at *
      have hm := mass_nonneg (allGe_iff.mp ht).1
      obtain ⟨hq, hr0, hr⟩ := fill_step_mono p hab
      have ih := greedy_sub_ge m t (a - min a p) (b - min b p) ht hr0 hr (by grind)
      have := Rat.mul_le_mul_of_nonneg_left hv hq
      grind

theorem greedy_more (m : Rat) : ∀ (l : Dist) (a d : Rat), AllGe m l → 0 ≤ a → 0 ≤ d → a + d ≤ mass l →
    greedy l a + d * m ≤ greedy l (a + d) := by
  intro l a d h ha hd hm
  have := greedy_sub_ge m l a (a + d) h ha (by grind) hm
  grind

theorem feas_bounds : ∀ (l : Dist) (qs : List Rat), Feas l qs → 0 ≤ qsum qs ∧ qsum qs ≤ mass l
  | [], [], _ => by simp [qsum, mass]
  | (p, v) :: t, q :: qs, ⟨h0, h1, ht⟩ => by
      have := feas_bounds t qs ht
      simp only [qsum, mass]; grind

theorem greedy_le_fill : ∀ (l : Dist) (qs : List Rat), Sorted l → Feas l qs →
    greedy l (qsum qs) ≤ fillVal l qs
  | [], [], _, _ => by simp [greedy, fillVal]
  | (p, v) :: t, q :: qs, ⟨hp, hge, hs⟩, ⟨h0, h1, ht⟩ => by
      have ih := greedy_le_fill t qs hs ht
      have hb := feas_bounds t qs ht
      simp only [greedy, fillVal, qsum]
      -- what the greedy fill takes here beyond `q` it takes from the tail at `v` or more per unit
      have hm := greedy_sub_ge v t (q + qsum qs - min (q + qsum qs) p) (qsum qs) hge (by grind) (by grind) hb.2
      grind

def IsFillValue (l : Dist) (a x : Rat) : Prop := ∃ qs, Feas l qs ∧ qsum qs = a ∧ fillVal l qs = x

theorem isFillValue_perm {l l' : Dist} (hp : l.Perm l') : ∀ a x, IsFillValue l a x → IsFillValue l' a x := by
  induction hp with
  | nil => intro a x h; exact h
  | cons y _ ih =>
    rintro a x ⟨qs, hf, hs, hv⟩
    cases qs with
    | nil => simp [Feas] at hf
    | cons q qs =>
      obtain ⟨h0, h1, ht⟩ := hf
      obtain ⟨qs', hf', hs', hv'⟩ := ih (qsum qs) (fillVal _ qs) ⟨qs, ht, rfl, rfl⟩
      refine ⟨q :: qs', ⟨h0, h1, hf'⟩, ?_, ?_⟩
      · simp only [qsum] at hs ⊢; rw [hs']; exact hs
      · simp only [fillVal] at hv ⊢; rw [hv']; exact hv
  | swap y z t =>
    rintro a x ⟨qs, hf, hs, hv⟩
    match qs, hf with
    | q2 :: q1 :: qs, ⟨h20, h21, h10, h11, ht⟩ =>
      refine ⟨q1 :: q2 :: qs, ⟨h10, h11, h20, h21, ht⟩, ?_, ?_⟩
      · simp only [qsum] at hs ⊢; grind
      · simp only [fillVal] at hv ⊢; grind
  | trans _ _ ih1 ih2 => intro a x h; exact ih2 a x (ih1 a x h)

theorem mass_perm {l l' : Dist} (hp : l.Perm l') : mass l = mass l' := by
  induction hp with
  | nil => rfl
  | cons y _ ih => obtain ⟨p, v⟩ := y; simp only [mass]; rw [ih]
  | swap y z t => obtain ⟨p1, v1⟩ := y; obtain ⟨p2, v2⟩ := z; simp only [mass]; grind
  | trans _ _ ih1 ih2 => rw [ih1, ih2]

theorem plainExpectation_perm {l l' : Dist} (hp : l.Perm l') : plainExpectation l = plainExpectation l' := by
  induction hp with
  | nil => rfl
  | cons y _ ih => obtain ⟨p, v⟩ := y; simp only [plainExpectation]; rw [ih]
  | swap y z t => obtain ⟨p1, v1⟩ := y; obtain ⟨p2, v2⟩ := z; simp only [plainExpectation]; grind
  | trans _ _ ih1 ih2 => rw [ih1, ih2]

theorem greedy_isFillValue : ∀ (l : Dist) (a : Rat), NonnegProbs l → 0 ≤ a → a ≤ mass l → IsFillValue l a (greedy l a)
  | [], a, _, ha, hm => ⟨[], trivial, by simp only [mass] at hm; simp only [qsum]; grind, rfl⟩
  | (p, v) :: t, a, hn, ha, hm => by
      obtain ⟨hp, hnt⟩ := nonneg_cons.mp hn
      simp only [mass] at hm
      have := mass_nonneg hnt
      have ⟨h1, h2, h3, h4⟩ : 0 ≤ min a p ∧ min a p ≤ p ∧ 0 ≤ a - min a p ∧ a - min a p ≤ mass t := by grind
      obtain ⟨qs, hf, hs, hv⟩ := greedy_isFillValue t (a - min a p) hnt h3 h4
      exact ⟨min a p :: qs, ⟨h1, h2, hf⟩, by simp only [qsum, hs]; grind, by simp only [fillVal, hv, greedy]⟩

theorem sortByValue_perm (l : Dist) : (sortByValue l).Perm l := List.mergeSort_perm l _

theorem forall_mem_sortByValue {P : Rat × Rat → Prop} {l : Dist} : (∀ x ∈ sortByValue l, P x) ↔ ∀ x ∈ l, P x :=
  ⟨fun h x hx => h x ((sortByValue_perm l).mem_iff.mpr hx), fun h x hx => h x ((sortByValue_perm l).mem_iff.mp hx)⟩

theorem sortByValue_pairwise (l : Dist) : (sortByValue l).Pairwise (fun a b => a.2 ≤ b.2) :=
  -- the binder types of `r` are written out: left to unification, this term is very slow to elaborate
  pairwise_mergeSort_decide (r := fun (a b : Rat × Rat) => a.2 ≤ b.2) (fun _ _ _ => Rat.le_trans) (fun _ _ => Rat.le_total) l

theorem sorted_of_pairwise : ∀ (l : Dist), NonnegProbs l → l.Pairwise (fun a b => a.2 ≤ b.2) → Sorted l
  | [], _, _ => trivial
  | (p, v) :: t, hn, hp => by
      obtain ⟨hp0, hnt⟩ := nonneg_cons.mp hn
      obtain ⟨hv, hpt⟩ := List.pairwise_cons.mp hp
      exact ⟨hp0, allGe_iff.mpr ⟨hnt, hv⟩, sorted_of_pairwise t hnt hpt⟩

theorem sortByValue_sorted (l : Dist) (hn : NonnegProbs l) : Sorted (sortByValue l) :=
  sorted_of_pairwise _ (forall_mem_sortByValue.mpr hn) (sortByValue_pairwise l)

/-- the operator path sorts twice -/
theorem sortByValue_idem (l : Dist) : sortByValue (sortByValue l) = sortByValue l := by
  apply List.mergeSort_of_pairwise
  exact (sortByValue_pairwise l).imp (by intro a b h; simpa using h)

theorem greedy_zero : ∀ (l : Dist), NonnegProbs l → greedy l 0 = 0
  | [], _ => rfl
  | (p, v) :: t, hn => by
      obtain ⟨hp, hnt⟩ := nonneg_cons.mp hn
      have : min 0 p = 0 := by grind
      simp only [greedy, this, Rat.zero_mul, Rat.sub_self, greedy_zero t hnt, Rat.add_zero]

theorem greedy_full : ∀ (l : Dist) (a : Rat), NonnegProbs l → mass l ≤ a → greedy l a = plainExpectation l
  | [], _, _, _ => rfl
  | (p, v) :: t, a, hn, hm => by
      obtain ⟨hp, hnt⟩ := nonneg_cons.mp hn
      have hmt := mass_nonneg hnt
      simp only [mass] at hm
      simp only [greedy, plainExpectation]
      have e : min a p = p := by grind
      rw [e, greedy_full t (a - p) hnt (by grind)]

theorem greedy_sort_mass (l : Dist) (hn : NonnegProbs l) : greedy (sortByValue l) (mass l) = plainExpectation l := by
  have hperm := sortByValue_perm l
  rw [greedy_full _ _ (forall_mem_sortByValue.mpr hn) (by rw [mass_perm hperm]; exact Rat.le_refl),
    plainExpectation_perm hperm]

theorem greedy_one (l : Dist) (hn : NonnegProbs l) (hmass : mass l = 1) : greedy l 1 = plainExpectation l :=
  greedy_full l 1 hn (by rw [hmass]; exact Rat.le_refl)

theorem greedy_sort_one (l : Dist) (hn : NonnegProbs l) (hmass : mass l = 1) :
    greedy (sortByValue l) 1 = plainExpectation l := hmass ▸ greedy_sort_mass l hn

theorem fillVal_ge (m : Rat) : ∀ (l : Dist) (qs : List Rat), (∀ x ∈ l, m ≤ x.2) → Feas l qs → qsum qs * m ≤ fillVal l qs
  | [], [], _, _ => by simp [qsum, fillVal]
  | (p, v) :: t, q :: qs, hm, ⟨h0, _, ht⟩ => by
      obtain ⟨hv, hmt⟩ := List.forall_mem_cons.mp hm
      have ih := fillVal_ge m t qs hmt ht
      have : q * m ≤ q * v := Rat.mul_le_mul_of_nonneg_left hv h0
      simp only [qsum, fillVal]; grind

theorem plainExpectation_le (M : Rat) : ∀ l : Dist, NonnegProbs l → (∀ x ∈ l, x.2 ≤ M) → plainExpectation l ≤ M * mass l
  | [], _, _ => by simp [plainExpectation, mass, Rat.mul_zero]
  | (p, v) :: t, hn, hM => by
      obtain ⟨hp, hnt⟩ := nonneg_cons.mp hn
      obtain ⟨hv, hMt⟩ := List.forall_mem_cons.mp hM
      have ih := plainExpectation_le M t hnt hMt
      have := Rat.mul_le_mul_of_nonneg_left hv hp
      simp only [plainExpectation, mass]
      grind

theorem feas_scale (c : Rat) (hc0 : 0 ≤ c) (hc1 : c ≤ 1) : ∀ (l : Dist) (qs : List Rat), Feas l qs → Feas l (qs.map (c * ·))
  | [], [], _ => trivial
  | (p, v) :: t, q :: qs, ⟨h0, h1, ht⟩ => by
      refine ⟨Rat.mul_nonneg hc0 h0, ?_, feas_scale c hc0 hc1 t qs ht⟩
      have : c * q ≤ 1 * q := Rat.mul_le_mul_of_nonneg_right hc1 h0
      grind

theorem qsum_scale (c : Rat) : ∀ qs : List Rat, qsum (qs.map (c * ·)) = c * qsum qs
  | [] => by simp [qsum]
  | q :: qs => by simp only [List.map_cons, qsum]; rw [qsum_scale c qs]; grind

theorem fillVal_scale (c : Rat) : ∀ (l : Dist) (qs : List Rat), fillVal l (qs.map (c * ·)) = c * fillVal l qs
  | [], _ => by simp [fillVal]
  | _ :: _, [] => by simp [fillVal]
  | (p, v) :: t, q :: qs => by simp only [List.map_cons, fillVal]; rw [fillVal_scale c t qs]; grind

end QVerif.Cvar
