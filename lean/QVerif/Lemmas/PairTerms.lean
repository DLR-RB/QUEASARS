import QVerif.Lemmas.DomainWall

/-! The precedence and overlap terms (C01/C02).  Both kinds of pair lists are one comprehension `pairsWhere` over the values of
two variables (the early-outs only skip empty comprehensions).  On a decoded state a pair term is the indicator of "this pair
violates its constraint", so the sums count the violations.  On every state a product of two value terms is at least minus
the number of its negative factors; counting those incidences per (operation, start) slot — the code's constraint counts —
bounds the pair sums below by `−Σ_x (negative values of x) · (max constraint count of x)`. -/

namespace QVerif.Encoder
open QVerif.DoubleCount

def pairsWhere (a b : Var) (c : Nat → Nat → Prop) [∀ x y, Decidable (c x y)] : List (Nat × Nat) :=
  (values a).flatMap (fun s1 => (values b).filterMap (fun s2 => if c s1 s2 then some (s1, s2) else none))

theorem mem_pairsWhere {a b : Var} {c : Nat → Nat → Prop} [∀ x y, Decidable (c x y)] {p : Nat × Nat}
    (h : p ∈ pairsWhere a b c) : p.1 ∈ values a ∧ p.2 ∈ values b := by
  obtain ⟨s1, h1, h2⟩ := List.mem_flatMap.mp h
  obtain ⟨s2, h3, h4⟩ := List.mem_filterMap.mp h2
  split at h4
  · cases h4; exact ⟨h1, h3⟩
  · cases h4

theorem pairsWhere_eq_nil {a b : Var} {c : Nat → Nat → Prop} [∀ x y, Decidable (c x y)]
    (h : ∀ s1 ∈ values a, ∀ s2 ∈ values b, ¬ c s1 s2) : pairsWhere a b c = [] := by
  unfold pairsWhere
  rw [List.flatMap_eq_nil_iff]
  intro s1 h1
  rw [List.filterMap_eq_nil_iff]
  intro s2 h2
  rw [if_neg (h s1 h1 s2 h2)]

/-- value ranges that far apart satisfy the constraint throughout: what the early-outs below test -/
theorem values_apart {a b : Var} {d s1 s2 : Nat} (he : a.hi + d ≤ b.lo) (h1 : s1 ∈ values a) (h2 : s2 ∈ values b) : s1 + d ≤ s2 := by
  have := mem_values_iff.mp h1; have := mem_values_iff.mp h2
  simp only [Var.hi] at he; omega

/-- the early-out of `_operation_precedence_term` only skips an empty comprehension -/
theorem precPairs_eq (a b : OpVar) : precPairs a b = pairsWhere a.var b.var (fun s1 s2 => ¬ (s1 + a.op.dur ≤ s2)) := by
  unfold precPairs
  split
  · rename_i he
    exact (pairsWhere_eq_nil fun s1 h1 s2 h2 hc => hc (values_apart he h1 h2)).symm
  · rfl

/-- so do the two early-outs of `_operation_overlap_term` -/
theorem ovlPairs_eq (a b : OpVar) :
    ovlPairs a b = pairsWhere a.var b.var (fun s1 s2 => s1 < s2 + b.op.dur ∧ s2 < s1 + a.op.dur) := by
  unfold ovlPairs
  split
  · rename_i he
    exact (pairsWhere_eq_nil fun s1 h1 s2 h2 hc => Nat.lt_irrefl _ (Nat.lt_of_lt_of_le hc.2 (values_apart he h1 h2))).symm
  · split
    · rename_i he
      exact (pairsWhere_eq_nil fun s1 h1 s2 h2 hc => Nat.lt_irrefl _ (Nat.lt_of_lt_of_le hc.1 (values_apart he h2 h1))).symm
    · rfl

theorem mem_combos {α} : ∀ (l : List α) (a b : α), (a, b) ∈ combos l → a ∈ l ∧ b ∈ l
  | x :: t, a, b, h => by
      simp only [combos, List.mem_append, List.mem_map] at h
      rcases h with ⟨y, hy, he⟩ | h
      · cases he; exact ⟨by simp, List.mem_cons_of_mem _ hy⟩
      · have := mem_combos t a b h
        exact ⟨List.mem_cons_of_mem _ this.1, List.mem_cons_of_mem _ this.2⟩

theorem precTerms_spec (ovs : List (List OpVar)) : ∀ t ∈ precTerms ovs, t.a ∈ ovs.flatten ∧ t.b ∈ ovs.flatten ∧
    t.pairs = pairsWhere t.a.var t.b.var (fun s1 s2 => ¬ (s1 + t.a.op.dur ≤ s2)) := by
  intro t ht
  simp only [precTerms, List.mem_flatMap, List.mem_map] at ht
  obtain ⟨row, hrow, ⟨a, b⟩, hab, rfl⟩ := ht
  have := List.of_mem_zip hab
  refine ⟨?_, ?_, precPairs_eq a b⟩
  · exact List.mem_flatten.mpr ⟨row, hrow, this.1⟩
  · exact List.mem_flatten.mpr ⟨row, hrow, List.mem_of_mem_tail this.2⟩

theorem ovlTerms_spec (ovs : List (List OpVar)) : ∀ t ∈ ovlTerms ovs, t.a ∈ ovs.flatten ∧ t.b ∈ ovs.flatten ∧
    t.pairs = pairsWhere t.a.var t.b.var (fun s1 s2 => s1 < s2 + t.b.op.dur ∧ s2 < s1 + t.a.op.dur) := by
  intro t ht
  simp only [ovlTerms, List.mem_flatMap, List.mem_map] at ht
  obtain ⟨m, _, ⟨a, b⟩, hab, rfl⟩ := ht
  have := mem_combos _ a b hab
  exact ⟨(List.mem_filter.mp this.1).1, (List.mem_filter.mp this.2).1, ovlPairs_eq a b⟩

structure TermOk (flat : List OpVar) (t : PairTerm) : Prop where
  ha : t.a ∈ flat
  hb : t.b ∈ flat
  hp : ∀ p ∈ t.pairs, p.1 ∈ values t.a.var ∧ p.2 ∈ values t.b.var

theorem TermOk.of_spec {flat : List OpVar} {t : PairTerm} {c : Nat → Nat → Prop} [∀ x y, Decidable (c x y)]
    (h : t.a ∈ flat ∧ t.b ∈ flat ∧ t.pairs = pairsWhere t.a.var t.b.var c) : TermOk flat t :=
  ⟨h.1, h.2.1, fun _ hp => mem_pairsWhere (h.2.2 ▸ hp)⟩

theorem precTerms_ok (ovs : List (List OpVar)) : ∀ t ∈ precTerms ovs, TermOk ovs.flatten t :=
  fun t ht => .of_spec (precTerms_spec ovs t ht)

theorem ovlTerms_ok (ovs : List (List OpVar)) : ∀ t ∈ ovlTerms ovs, TermOk ovs.flatten t :=
  fun t ht => .of_spec (ovlTerms_spec ovs t ht)

def startOf (x : OpVar) (bits : Bits) : Nat := (decodeVar x.var bits).getD 0

def PrecViolated (t : PairTerm) (bits : Bits) : Prop := ¬ (startOf t.a bits + t.a.op.dur ≤ startOf t.b bits)

def OvlViolated (t : PairTerm) (bits : Bits) : Prop :=
  startOf t.a bits < startOf t.b bits + t.b.op.dur ∧ startOf t.b bits < startOf t.a bits + t.a.op.dur

instance (t : PairTerm) (bits : Bits) : Decidable (PrecViolated t bits) := by unfold PrecViolated; infer_instance
instance (t : PairTerm) (bits : Bits) : Decidable (OvlViolated t bits) := by unfold OvlViolated; infer_instance

def AllDecoded (ovs : List (List OpVar)) (bits : Bits) : Prop :=
  ∀ x ∈ ovs.flatten, ∃ k, DecodedAt x.var bits k

theorem startOf_decoded {x : OpVar} {bits : Bits} {k : Nat} (h : DecodedAt x.var bits k) : startOf x bits = x.var.lo + k := by
  unfold startOf; rw [h.decode]; rfl

theorem allDecoded_of_isSome (inst : EInst) (limit : Nat) (vars : List (List Var)) (h : prepare inst limit = .ok vars)
    (bits : Bits) (hlen : bits.length = nQubits vars) (hall : ∀ x ∈ (opVars inst vars).flatten, (decodeVar x.var bits).isSome = true) :
    AllDecoded (opVars inst vars) bits := by
  intro x hx
  have hok := opVars_ok inst limit vars h x hx
  obtain ⟨s, hs⟩ := Option.isSome_iff_exists.mp (hall x hx)
  exact DecodedAt.of_decode (prepare_window_length h hlen x.var hok.mem) hok.nvals hs

theorem pairTerm_decoded {t : PairTerm} {bits : Bits} {ka kb : Nat} (c : Nat → Nat → Prop) [∀ x y, Decidable (c x y)]
    (hp : t.pairs = pairsWhere t.a.var t.b.var c) (ha : DecodedAt t.a.var bits ka) (hb : DecodedAt t.b.var bits kb) :
    pairTermValue t bits = if c (startOf t.a bits) (startOf t.b bits) then 1 else 0 := by
  -- the inner sum (over `s2`) picks `s2 = b.lo + kb` …
  have inner (s1 : Nat) :
      (((values t.b.var).filterMap (fun s2 => if c s1 s2 then some (s1, s2) else none)).map
        (fun p : Nat × Nat => valueTerm t.a.var bits (p.1 - t.a.var.lo) * valueTerm t.b.var bits (p.2 - t.b.var.lo))).sum =
      (if c s1 (t.b.var.lo + kb) then 1 else 0) * valueTerm t.a.var bits (s1 - t.a.var.lo) := by
    rw [sum_map_filterMap_ite (values t.b.var) (fun s2 => c s1 s2) (fun s2 => (s1, s2)),
      List.map_congr_left (g := fun s2 => (if c s1 s2 then valueTerm t.a.var bits (s1 - t.a.var.lo) else 0) *
        valueTerm t.b.var bits (s2 - t.b.var.lo)) (fun s2 _ => by split <;> grind),
      sum_values_decoded hb]
    split <;> grind
  -- … and the outer one `s1 = a.lo + ka`
  unfold pairTermValue
  rw [hp, pairsWhere, startOf_decoded ha, startOf_decoded hb, sum_map_flatMap, List.map_congr_left fun s1 _ => inner s1]
  exact sum_values_decoded ha _

def nPrecViolated (ovs : List (List OpVar)) (bits : Bits) : Nat :=
  ((precTerms ovs).filter (fun t => decide (PrecViolated t bits))).length
def nOvlViolated (ovs : List (List OpVar)) (bits : Bits) : Nat :=
  ((ovlTerms ovs).filter (fun t => decide (OvlViolated t bits))).length

theorem pairSum_decoded {flat : List OpVar} {bits : Bits} (terms : List PairTerm) (c : PairTerm → Nat → Nat → Prop)
    [∀ t x y, Decidable (c t x y)] (hd : ∀ x ∈ flat, ∃ k, DecodedAt x.var bits k)
    (hspec : ∀ t ∈ terms, t.a ∈ flat ∧ t.b ∈ flat ∧ t.pairs = pairsWhere t.a.var t.b.var (c t)) :
    (terms.map (fun t => pairTermValue t bits)).sum =
      ((terms.filter (fun t => decide (c t (startOf t.a bits) (startOf t.b bits)))).length : Rat) := by
  rw [← sum_indicator_eq_count]
  refine congrArg List.sum (List.map_congr_left fun t ht => ?_)
  obtain ⟨ha, hb, hp⟩ := hspec t ht
  obtain ⟨ka, hka⟩ := hd t.a ha
  obtain ⟨kb, hkb⟩ := hd t.b hb
  exact pairTerm_decoded _ hp hka hkb

theorem prec_sum_decoded (ovs : List (List OpVar)) (bits : Bits) (hd : AllDecoded ovs bits) :
    ((precTerms ovs).map (fun t => pairTermValue t bits)).sum = (nPrecViolated ovs bits : Rat) := by
  unfold nPrecViolated PrecViolated
  exact pairSum_decoded (precTerms ovs) (fun t s1 s2 => ¬ (s1 + t.a.op.dur ≤ s2)) hd (precTerms_spec ovs)

theorem ovl_sum_decoded (ovs : List (List OpVar)) (bits : Bits) (hd : AllDecoded ovs bits) :
    ((ovlTerms ovs).map (fun t => pairTermValue t bits)).sum = (nOvlViolated ovs bits : Rat) := by
  unfold nOvlViolated OvlViolated
  exact pairSum_decoded (ovlTerms ovs) (fun t s1 s2 => s1 < s2 + t.b.op.dur ∧ s2 < s1 + t.a.op.dur) hd (ovlTerms_spec ovs)

theorem viab_sum_decoded (ovs : List (List OpVar)) (bits : Bits) (hd : AllDecoded ovs bits) (c : OpVar → Rat) :
    (ovs.flatten.map (fun x => c x * viability x.var bits)).sum = 0 := by
  rw [List.map_congr_left (g := fun _ => 0) (fun x hx => by
    obtain ⟨k, hk⟩ := hd x hx
    rw [viability_decoded hk, Rat.mul_zero]), sum_map_zero]

/-- an (operation key, start value) pair -/
abbrev Slot := (Nat × Nat) × Nat

/-- the products of two value terms that a pair term sums, as pairs of slots -/
def unitsOfTerm (t : PairTerm) : List (Slot × Slot) := t.pairs.map (fun p => ((t.a.key, p.1), (t.b.key, p.2)))

def unitsOf (terms : List PairTerm) : List (Slot × Slot) := terms.flatMap unitsOfTerm

theorem length_filter_tagged {α κ β : Type} [DecidableEq κ] [DecidableEq β] (l : List α) (f : α → β) (k' k : κ) (s : β) :
    (l.filter (fun p => decide ((k', f p) = (k, s)))).length =
      if k' = k then (l.filter (fun p => decide (f p = s))).length else 0 := by
  split
  · rename_i h; subst h
    congr 1; apply List.filter_congr; intro p _; simp
  · rename_i h
    rw [List.length_eq_zero_iff, List.filter_eq_nil_iff]
    intro p _; simp [h]

/-- the code's `_operation_constraint_counts[(op, start)]` is the number of unit terms touching that slot -/
theorem constraintCount_eq_cnt (terms : List PairTerm) (key : Nat × Nat) (s : Nat) :
    constraintCount terms key s = cnt (unitsOf terms) (key, s) := by
  unfold constraintCount cnt unitsOf unitsOfTerm
  induction terms with
  | nil => rfl
  | cons t T ih =>
    simp only [List.map_cons, List.sum_cons, List.flatMap_cons, List.filter_append, List.length_append, List.filter_map,
      List.length_map, Function.comp_def]
    rw [ih, length_filter_tagged t.pairs Prod.fst, length_filter_tagged t.pairs Prod.snd]
    omega

theorem constraintCount_le_maxCount (terms : List PairTerm) (x : OpVar) (s : Nat) (hs : s ∈ values x.var) :
    constraintCount terms x.key s ≤ maxCount terms x :=
  (foldl_max_spec _ 0).1 _ (List.mem_map_of_mem hs)

def negSlots (flat : List OpVar) (bits : Bits) : List Slot :=
  flat.flatMap (fun x => ((values x.var).filter (negV x bits)).map (fun s => (x.key, s)))

theorem mem_negSlots {flat : List OpVar} {bits : Bits} {x : OpVar} {s : Nat} (hx : x ∈ flat) (hs : s ∈ values x.var)
    (hn : valueTerm x.var bits (s - x.var.lo) = -1) : ((x.key, s) : Slot) ∈ negSlots flat bits := by
  unfold negSlots
  simp only [List.mem_flatMap, List.mem_map, List.mem_filter]
  exact ⟨x, hx, s, ⟨hs, by simp [negV, hn]⟩, rfl⟩

theorem neg_count_le_mul {x y : Rat} (hx : x = 1 ∨ x = -1 ∨ x = 0) (hy : y = 1 ∨ y = -1 ∨ y = 0) :
    -((ind (decide (x = -1)) + ind (decide (y = -1)) : Nat) : Rat) ≤ x * y := by
  rcases hx with rfl | rfl | rfl <;> rcases hy with rfl | rfl | rfl <;> decide +kernel

/-- every negative factor of a product lies in a negative slot -/
theorem pairTermValue_ge (flat : List OpVar) (bits : Bits) (t : PairTerm) (ht : TermOk flat t) :
    -(((sumN (incid (negSlots flat bits)) (unitsOfTerm t) : Nat)) : Rat) ≤ pairTermValue t bits := by
  unfold pairTermValue unitsOfTerm
  rw [sumN_map]
  refine neg_sumN_le_sum _ _ _ (fun p hp => ?_)
  have hr := ht.hp p hp
  refine Rat.le_trans (Rat.neg_le_neg (Rat.natCast_le_natCast.mpr (Nat.add_le_add ?_ ?_)))
    (neg_count_le_mul (valueTerm_cases _ _ _) (valueTerm_cases _ _ _))
  -- `decide_eq_true (mem_negSlots …)` as a term fails: `incid` decides membership through `instBEqOfDecidableEq`,
  -- elaboration of the term through `instBEqProd`
  · exact ind_le_of_imp fun h => by simp only [mem_negSlots ht.ha hr.1 h, decide_true]
  · exact ind_le_of_imp fun h => by simp only [mem_negSlots ht.hb hr.2 h, decide_true]

theorem terms_sum_ge (flat : List OpVar) (bits : Bits) (terms : List PairTerm) (h : ∀ t ∈ terms, TermOk flat t) :
    -(((sumN (incid (negSlots flat bits)) (unitsOf terms) : Nat)) : Rat) ≤ (terms.map (fun t => pairTermValue t bits)).sum := by
  rw [unitsOf, sumN_flatMap]
  exact neg_sumN_le_sum _ _ _ (fun t ht => pairTermValue_ge flat bits t (h t ht))

theorem incidences_bound (flat : List OpVar) (bits : Bits) (all : List PairTerm) :
    sumN (incid (negSlots flat bits)) (unitsOf all) ≤ sumN (fun x => negLen x bits * maxCount all x) flat := by
  -- count each incidence at its slot, …
  refine Nat.le_trans (incidences_le_cnt (unitsOf all) (negSlots flat bits)) ?_
  unfold negSlots
  rw [sumN_flatMap]
  refine sumN_le _ _ _ fun x _ => ?_
  -- … and a slot of `x` is touched by at most `maxCount all x` unit terms (the code's constraint count)
  have hslot : ∀ b ∈ ((values x.var).filter (negV x bits)).map (fun s => ((x.key, s) : Slot)),
      cnt (unitsOf all) b ≤ maxCount all x := by
    intro b hb
    simp only [List.mem_map, List.mem_filter] at hb
    obtain ⟨s, ⟨hs, _⟩, rfl⟩ := hb
    rw [← constraintCount_eq_cnt]
    exact constraintCount_le_maxCount all x s hs
  simpa [negLen] using sumN_const_le (cnt (unitsOf all)) (maxCount all x) _ hslot

end QVerif.Encoder
