import QVerif.Model.Codec

/-! What the codec round trips (C18) rest on: dict access on a written-out dict, `Reads` (a field of an encoded object
decodes to a value from which its cast recovers it), the hook tower (`Extends`), and `dict(pairs)` on distinct keys. -/

namespace QVerif.Codec

/-! Keys are compared with `=`, not `==`: `simp` refutes an equation of two string literals by the first position where they
differ, whereas `("a" == "b") = false` makes the kernel run the whole comparison. -/

theorem has_nil (k : String) : has [] k = false := rfl

theorem has_cons (k' k : String) (v : V) (d : List (String × V)) :
    has ((k', v) :: d) k = (decide (k' = k) || has d k) := rfl

theorem hasAny_nil (keys : List String) : hasAny [] keys = false := rfl

theorem hasAny_cons (k' : String) (v : V) (d : List (String × V)) (keys : List String) :
    hasAny ((k', v) :: d) keys = (decide (k' ∈ keys) || hasAny d keys) := by
  simp only [hasAny, List.any_cons, List.contains_eq_mem]

theorem hasAny_head {k : String} {keys : List String} (h : k ∈ keys) (v : V) (d : List (String × V)) :
    hasAny ((k, v) :: d) keys = true := by
  simp only [hasAny_cons, h, decide_true, Bool.true_or]

theorem get_nil (k : String) : get [] k = .error (.keyError k) := rfl

theorem get_cons (k' k : String) (v : V) (d : List (String × V)) :
    get ((k', v) :: d) k = if k = k' then .ok v else get d k := by
  by_cases h : k = k'
  · simp [get, h]
  · simp [get, List.lookup_cons, beq_false_of_ne h, h]

/-- Logically trivial (take `d := D`). It exists so that `parse` is evaluated on a variable: `simp` rewrites each atom
`get d "key"` with the hypothesis and looks the key up in `D` there, instead of carrying `D` written out through every nested
`match` of the parse function, where the kernel would check it again each time. -/
theorem hook_of_parse {hook parse : Hook} {D : List (String × V)} {r : Except Err V} (hd : hook D = parse D)
    (h : ∀ d, (∀ k, get d k = get D k) → parse d = r) : hook D = r :=
  hd.trans (h D fun _ => rfl)

theorem mapE_map {α β γ} (f : α → Except Err β) (g : γ → α) (k : γ → β) (l : List γ)
    (h : ∀ c ∈ l, f (g c) = .ok (k c)) : mapE f (l.map g) = .ok (l.map k) := by
  induction l with
  | nil => rfl
  | cons c t ih =>
    simp only [List.map_cons, mapE, h c List.mem_cons_self, ih fun c hc => h c (List.mem_cons_of_mem _ hc)]

theorem decList_map {α} (hook : Hook) (f : α → J) (g : α → V) (l : List α)
    (h : ∀ a ∈ l, dec hook (f a) = .ok (g a)) : decList hook (l.map f) = .ok (l.map g) := by
  induction l with
  | nil => rfl
  | cons a t ih =>
    simp only [List.map_cons, decList, h a List.mem_cons_self, ih fun a ha => h a (List.mem_cons_of_mem _ ha)]

def Reads {α} (hook : Hook) (cast : V → Except Err α) (j : J) (a : α) : Prop :=
  ∃ v, dec hook j = .ok v ∧ cast v = .ok a

theorem Reads.num (hook : Hook) (n : Num) : Reads hook asNum (.num n) n := ⟨_, rfl, rfl⟩

theorem Reads.int (hook : Hook) (i : Int) : Reads hook asInt (jint i) i := ⟨_, rfl, rfl⟩

theorem Reads.elems {α} {hook : Hook} {cast : V → Except Err α} {enc : α → J} {l : List α}
    (h : ∀ a ∈ l, Reads hook cast (enc a) a) : ∃ vs, decList hook (l.map enc) = .ok vs ∧ mapE cast vs = .ok l := by
  induction l with
  | nil => exact ⟨[], rfl, rfl⟩
  | cons a t ih =>
    obtain ⟨v, hv, cv⟩ := h a List.mem_cons_self
    obtain ⟨vs, hvs, cvs⟩ := ih fun a ha => h a (List.mem_cons_of_mem _ ha)
    exact ⟨v :: vs, by simp only [List.map_cons, decList, hv, hvs], by simp only [mapE, cv, cvs]⟩

theorem Reads.seq {α} {hook : Hook} {cast : V → Except Err α} {enc : α → J} {l : List α}
    (h : ∀ a ∈ l, Reads hook cast (enc a) a) : Reads hook (seqOf cast) (.arr (l.map enc)) l :=
  let ⟨vs, d, c⟩ := Reads.elems h
  ⟨.list vs, by simp only [dec, d], c⟩

theorem Reads.list {α} {hook : Hook} {cast : V → Except Err α} {enc : α → J} {l : List α}
    (h : ∀ a ∈ l, Reads hook cast (enc a) a) : Reads hook (listOf cast) (.arr (l.map enc)) l :=
  let ⟨vs, d, c⟩ := Reads.elems h
  ⟨.list vs, by simp only [dec, d], c⟩

/-- `hn`: a value that decoded to `None` would be read as absent -/
theorem Reads.opt {α} {hook : Hook} {cast : V → Except Err α} {enc : α → J} {o : Option α} {e : Err}
    (hn : cast .none = .error e) (h : ∀ a, o = some a → Reads hook cast (enc a) a) :
    Reads hook (asOpt cast) (encOpt enc o) o := by
  cases o with
  | none => exact ⟨_, rfl, rfl⟩
  | some a =>
    obtain ⟨v, d, c⟩ := h a rfl
    have hv : v = V.none → False := fun hv => by rw [hv, hn] at c; cases c
    exact ⟨v, d, by rw [asOpt.eq_2 _ _ hv, c]⟩

def Extends (hook' hook : Hook) (keys : List String) : Prop := ∀ d, hasAny d keys = true → hook' d = hook d

theorem Extends.refl (hook : Hook) (keys : List String) : Extends hook hook keys := fun _ _ => rfl

theorem hookPop_extends (keq : CIndiv → CIndiv → Bool) : Extends (hookPop keq) hookLayer layerKeys :=
  fun d hd => by simp only [hookPop, hd, ↓reduceIte]

theorem hookBase_extends (keq : CIndiv → CIndiv → Bool) : Extends (hookBase keq) (hookPop keq) popKeys :=
  fun d hd => by simp only [hookBase, hd, ↓reduceIte]

theorem Extends.toLayer {hook : Hook} {keq : CIndiv → CIndiv → Bool} (hx : Extends hook (hookPop keq) popKeys) :
    Extends hook hookLayer layerKeys := by
  intro d hd
  have hd' : hasAny d popKeys = true := by
    simp only [hasAny, List.any_eq_true, List.contains_eq_mem, decide_eq_true_eq, popKeys, List.mem_append] at hd ⊢
    exact hd.imp fun p hp => ⟨hp.1, .inr hp.2⟩
  rw [hx d hd', hookPop_extends keq d hd]

theorem dictInsert_fresh {α β} (keq : α → α → Bool) (d : List (α × β)) (k : α) (v : β)
    (h : ∀ q ∈ d, keq q.1 k = false) : dictInsert keq d k v = d ++ [(k, v)] := by
  have : d.any (fun p => keq p.1 k) = false := List.any_eq_false.mpr fun q hq => by simp [h q hq]
  simp only [dictInsert, this, Bool.false_eq_true, ↓reduceIte]

instance {α β} (keq : α → α → Bool) (l : List (α × β)) : Decidable (DistinctKeys keq l) := by
  unfold DistinctKeys; infer_instance

theorem pyDictFrom_distinct {α β} (keq : α → α → Bool) (l acc : List (α × β))
    (h : DistinctKeys keq (acc ++ l)) : pyDictFrom keq acc l = acc ++ l := by
  induction l generalizing acc with
  | nil => simp [pyDictFrom]
  | cons p t ih =>
    have hp : ∀ q ∈ acc, keq q.1 p.1 = false := fun q hq =>
      (List.pairwise_append.mp h).2.2 q hq p List.mem_cons_self
    have := ih (acc ++ [p]) (by simpa using h)
    simp only [pyDictFrom, List.foldl_cons, dictInsert_fresh keq acc p.1 p.2 hp] at this ⊢
    simpa using this

theorem pyDict_distinct {α β} (keq : α → α → Bool) (l : List (α × β)) (h : DistinctKeys keq l) :
    pyDict keq l = l := by
  have := pyDictFrom_distinct keq l [] (by simpa using h)
  simpa [pyDict] using this

theorem map_pyDict_of_distinct {α β} {keq : α → α → Bool} {o : Option (List (α × β))}
    (h : ∀ m, o = some m → DistinctKeys keq m) : o.map (pyDict keq) = o := by
  cases o with
  | none => rfl
  | some m => rw [Option.map_some, pyDict_distinct keq m (h m rfl)]

end QVerif.Codec
