import QVerif.Model.Criteria

namespace QVerif.Criteria

@[simp] theorem ERat.lt_none (thr : Rat) : ERat.lt none thr = false := rfl
@[simp] theorem ERat.lt_some (x thr : Rat) : ERat.lt (some x) thr = decide (x < thr) := rfl

theorem ERat.max_lt_iff (a b : ERat) (thr : Rat) :
    (ERat.max a b).lt thr = true ↔ a.lt thr = true ∧ b.lt thr = true := by
  cases a with
  | none => simp [ERat.max]
  | some x =>
    cases b with
    | none => simp [ERat.max]
    | some y =>
      simp only [ERat.max, ERat.lt_some, decide_eq_true_eq]
      split <;> grind

theorem emax_lt_iff (l : List ERat) (thr : Rat) :
    (emax l).lt thr = true ↔ l ≠ [] ∧ ∀ x ∈ l, x.lt thr = true := by
  induction l with
  | nil => simp [emax]
  | cons a t ih =>
    cases t with
    | nil => simp [emax]
    | cons b t' =>
      have ih' : (emax (b :: t')).lt thr = true ↔ ∀ x ∈ b :: t', x.lt thr = true := by
        rw [ih]; simp
      have : emax (a :: b :: t') = ERat.max a (emax (b :: t')) := rfl
      rw [this, ERat.max_lt_iff, ih']
      simp

/-- the documented window condition on a list of measures -/
def WindowBelow (ms : List ERat) (allowed : Nat) (thr : Rat) : Prop :=
  allowed + 1 ≤ ms.length ∧ ∀ x ∈ ms.drop (ms.length - (allowed + 1)), x.lt thr = true

theorem window_ne_nil {ms : List ERat} {allowed : Nat} (h : allowed + 1 ≤ ms.length) :
    ms.drop (ms.length - (allowed + 1)) ≠ [] := by
  intro hnil
  have := congrArg List.length hnil
  simp only [List.length_drop, List.length_nil] at this
  omega

theorem decide_iff_plain (ms : List ERat) (allowed : Nat) (thr : Rat) :
    decide_ ms allowed thr = true ↔ WindowBelow ms allowed thr := by
  unfold decide_ WindowBelow window
  split
  · rename_i h; simp only [Bool.false_eq_true, false_iff, not_and]; intro h'; omega
  · rename_i h
    rw [emax_lt_iff]
    constructor
    · rintro ⟨_, h2⟩; exact ⟨by omega, h2⟩
    · rintro ⟨h1, h2⟩; exact ⟨window_ne_nil h1, h2⟩

/-- a leading infinity never counts: either the window does not reach it, or it spoils the window of a history that
is too short anyway -/
theorem windowBelow_none_cons (h : List ERat) (allowed : Nat) (thr : Rat) :
    WindowBelow (none :: h) allowed thr ↔ WindowBelow h allowed thr := by
  unfold WindowBelow
  by_cases hlen : allowed + 1 ≤ h.length
  · have : h.length + 1 - (allowed + 1) = (h.length - (allowed + 1)) + 1 := by omega
    simp only [List.length_cons, this, List.drop_succ_cons, hlen, true_and]
    exact ⟨fun ⟨_, h⟩ => h, fun h => ⟨by omega, h⟩⟩
  · refine ⟨fun ⟨h1, h2⟩ => ?_, fun ⟨h1, _⟩ => absurd h1 hlen⟩
    have : h.length + 1 - (allowed + 1) = 0 := by simp only [List.length_cons] at h1; omega
    simp only [List.length_cons, this, List.drop_zero] at h2
    simpa using h2 none (by simp)

/-- `n`: the pre-fill of the history, 0 for the best-individual criteria, `allowed + 1` for the population criteria -/
theorem decide_replicate_iff (n : Nat) (ms : List ERat) (allowed : Nat) (thr : Rat) :
    decide_ (List.replicate n none ++ ms) allowed thr = true ↔ WindowBelow ms allowed thr := by
  rw [decide_iff_plain]
  induction n with
  | zero => rfl
  | succ k ih => rw [List.replicate_succ, List.cons_append, windowBelow_none_cons, ih]

section generic
variable {κ : Type} (sum : Eval → κ) (m : κ → Eval → ERat)

def measures : List Eval → List ERat
  | a :: b :: t => m (sum a) b :: measures (b :: t)
  | _ => []

theorem measures_snoc (p : List Eval) (e : Eval) :
    measures sum m (p ++ [e]) = measures sum m p ++
      (match p.getLast? with | none => [] | some l => [m (sum l) e]) := by
  induction p with
  | nil => simp [measures]
  | cons a t ih =>
    cases t with
    | nil => simp [measures]
    | cons b t' =>
      have : (a :: b :: t') ++ [e] = a :: (b :: (t' ++ [e])) := rfl
      rw [this]
      simp only [measures]
      have ih' : measures sum m (b :: (t' ++ [e])) = measures sum m (b :: t') ++
          (match (b :: t').getLast? with | none => [] | some l => [m (sum l) e]) := ih
      rw [ih']
      simp [List.getLast?_cons_cons]

end generic

section shape
variable {σ κ : Type} (check : σ → Eval → σ × Bool) (summ : Eval → κ) (m : κ → Eval → ERat)
  (lastOf : σ → Option κ) (histOf : σ → List ERat) (allowed : Nat) (thr : Rat)

/-- the shape every criterion's `check` has; `pre`: the pre-fill of the history, which alone decides the first answer -/
def StepLike (pre : List ERat) : Prop := ∀ s e,
  lastOf (check s e).1 = some (summ e) ∧
  match lastOf s with
  | none => histOf (check s e).1 = histOf s ∧ (histOf s = pre → (check s e).2 = decide_ pre allowed thr)
  | some l => histOf (check s e).1 = histOf s ++ [m l e] ∧ (check s e).2 = decide_ (histOf s ++ [m l e]) allowed thr

variable {check summ m lastOf histOf allowed thr}

theorem run_from {pre : List ERat} (hstep : StepLike check summ m lastOf histOf allowed thr pre) :
    ∀ (rest : List Eval) (l : Eval) (s : σ) (k : Nat) (hk : k < (runCrit check s rest).length),
      lastOf s = some (summ l) →
      (runCrit check s rest)[k] = decide_ (histOf s ++ measures summ m (l :: rest.take (k + 1))) allowed thr
  | [], _, _, _, hk, _ => by simp [runCrit] at hk
  | e :: rest, l, s, k, hk, hl => by
    obtain ⟨h1, h2⟩ := hstep s e
    rw [hl] at h2
    cases k with
    | zero => simpa [runCrit, measures] using h2.2
    | succ j =>
      have := run_from hstep rest e (check s e).1 j (by simpa [runCrit] using hk) h1
      simpa [runCrit, measures, h2.1] using this

theorem answer_iff {n : Nat} (hstep : StepLike check summ m lastOf histOf allowed thr (List.replicate n none))
    {s : σ} (hl : lastOf s = none) (hh : histOf s = List.replicate n none) (evals : List Eval) (k : Nat)
    (hk : k < (runCrit check s evals).length) :
    (runCrit check s evals)[k] = true ↔ WindowBelow (measures summ m (evals.take (k + 1))) allowed thr := by
  rw [← decide_replicate_iff n]
  cases evals with
  | nil => simp [runCrit] at hk
  | cons e rest =>
    obtain ⟨h1, h2⟩ := hstep s e
    rw [hl] at h2
    cases k with
    | zero => simp [runCrit, measures, h2.2 hh]
    | succ j =>
      have := run_from hstep rest e (check s e).1 j (by simpa [runCrit] using hk) h1
      simp [runCrit, this, h2.1, hh]

end shape

theorem spsaEnter_new {s : SpsaState} {c : SpsaCall} (h : s.done = true ∨ c.nfev ≤ s.nfev) : spsaEnter s c = {} := by
  have : (s.done || decide (c.nfev ≤ s.nfev)) = true := by
    rcases h with h | h <;> simp [h]
  simp only [spsaEnter, this, ↓reduceIte]
  rfl

theorem spsaEnter_running {s : SpsaState} {c : SpsaCall} (hd : s.done = false) (hn : s.nfev < c.nfev) :
    spsaEnter s c = s := by
  have : ¬ c.nfev ≤ s.nfev := by omega
  simp [spsaEnter, hd, this]

theorem spsaBody_budget (allowed : Nat) (thr : Rat) (maxfev : Option Nat) (s : SpsaState) (c : SpsaCall) :
    spsaBody allowed thr maxfev s c =
      if maxfev.any (fun m => decide (m ≤ c.nfev)) then ({ s with nfev := c.nfev }, true)
      else spsaBody allowed thr none s c := by
  cases maxfev with
  | none => rfl
  | some m => by_cases h : m ≤ c.nfev <;> simp [spsaBody, h]

end QVerif.Criteria
