import QVerif.Model.Runner
namespace Runner

/-- relational presentation of `step`, one constructor per guarded branch; every constructor has the
    same shape `(t) (hlt) (hloc) (hg : guard)` so that case analyses can name hypotheses uniformly -/
inductive Step (s : St) : St → Prop
  | start (t) (hlt : t < s.th.length) (hloc : (s.get t).loc = .idle) (hg : (s.get t).todo ≠ []) :
      Step s (s.set t { s.get t with loc := .a0, pubs := (s.get t).todo.headD [], todo := (s.get t).todo.tail,
                                     exec := false, loc_res := none, idx := 0 })
  | a0 (t) (hlt : t < s.th.length) (hloc : (s.get t).loc = .a0) (hg : s.E = none) :
      Step s ({ s with E := some t }.at t .a1)
  | a1ok (t) (hlt : t < s.th.length) (hloc : (s.get t).loc = .a1) (hg : s.V = none) :
      Step s ({ s with V := some t, batch := s.batch ++ (s.get t).pubs, blen := s.blen + (s.get t).pubs.length, tc := s.tc + 1 }.set t
                { s.get t with loc := .a2, idx := s.blen })
  | a1fail (t) (hlt : t < s.th.length) (hloc : (s.get t).loc = .a1) (hg : s.V ≠ none) : Step s (s.at t .a7)
  | a2 (t) (hlt : t < s.th.length) (hloc : (s.get t).loc = .a2) (hg : True) : Step s ({ s with E := none }.at t .a3)
  | a3 (t) (hlt : t < s.th.length) (hloc : (s.get t).loc = .a3) (hg : True) : Step s ({ s with V := none }.at t .a4)
  | a4 (t) (hlt : t < s.th.length) (hloc : (s.get t).loc = .a4) (hg : True) : Step s ({ s with ecw := [] }.at t .b0)
  | a7 (t) (hlt : t < s.th.length) (hloc : (s.get t).loc = .a7) (hg : True) : Step s ({ s with E := none }.at t .a8)
  | a8 (t) (hlt : t < s.th.length) (hloc : (s.get t).loc = .a8) (hg : True) : Step s ({ s with ecw := s.ecw ++ [t] }.at t .a9)
  | a9 (t) (hlt : t < s.th.length) (hloc : (s.get t).loc = .a9) (hg : t ∉ s.ecw) : Step s (s.at t .a0)
  | a9timeout (t) (hlt : t < s.th.length) (hloc : (s.get t).loc = .a9) (hg : t ∈ s.ecw) :
      Step s ({ s with ecw := s.ecw.erase t }.at t .a0)
  | b0 (t) (hlt : t < s.th.length) (hloc : (s.get t).loc = .b0) (hg : True) : Step s (s.at t .b1)
  | b1exec (t) (hlt : t < s.th.length) (hloc : (s.get t).loc = .b1) (hg : s.V = none ∧ s.ec + 1 = s.tc) :
      Step s ({ s with V := some t, ec := s.ec + 1 }.set t { s.get t with loc := .b2, exec := true })
  | b1wait (t) (hlt : t < s.th.length) (hloc : (s.get t).loc = .b1) (hg : s.V = none ∧ s.ec + 1 ≠ s.tc) :
      Step s ({ s with V := some t, ec := s.ec + 1 }.set t { s.get t with loc := .c0, exec := false })
  | b2 (t) (hlt : t < s.th.length) (hloc : (s.get t).loc = .b2) (hg : s.E = none) : Step s ({ s with E := some t }.at t .b3)
  | b3ok (t) (hlt : t < s.th.length) (hloc : (s.get t).loc = .b3) (hg : True) :
      Step s ({ s with result := some s.batch, exn := none, flog := s.flog ++ [(s.batch, Outcome.ok s.batch)] }.at t .b4)
  | b3fail (t) (hlt : t < s.th.length) (hloc : (s.get t).loc = .b3) (hg : True) :
      Step s ({ s with result := none, exn := some s.flog.length, flog := s.flog ++ [(s.batch, Outcome.exc s.flog.length)] }.at t .b4)
  | b4 (t) (hlt : t < s.th.length) (hloc : (s.get t).loc = .b4) (hg : True) : Step s ({ s with V := none }.at t .d0)
  | c0 (t) (hlt : t < s.th.length) (hloc : (s.get t).loc = .c0) (hg : True) : Step s ({ s with V := none }.at t .c1)
  | c1 (t) (hlt : t < s.th.length) (hloc : (s.get t).loc = .c1) (hg : True) : Step s ({ s with icw := s.icw ++ [t] }.at t .c2)
  | c2 (t) (hlt : t < s.th.length) (hloc : (s.get t).loc = .c2) (hg : t ∉ s.icw) : Step s (s.at t .d0)
  | d0 (t) (hlt : t < s.th.length) (hloc : (s.get t).loc = .d0) (hg : s.V = none) :
      Step s ({ s with V := some t, tc := s.tc - 1, g := s.g + 1 }.set t { s.get t with loc := .d1, loc_res := some (gather s) })
  | d1 (t) (hlt : t < s.th.length) (hloc : (s.get t).loc = .d1) (hg : True) : Step s ({ s with icw := s.icw.tail }.at t .d2)
  | d2exec (t) (hlt : t < s.th.length) (hloc : (s.get t).loc = .d2) (hg : (s.get t).exec = true) :
      Step s ({ s with V := none }.at t .g0)
  | d2plain (t) (hlt : t < s.th.length) (hloc : (s.get t).loc = .d2) (hg : ¬ (s.get t).exec = true) :
      Step s ({ s with V := none }.at t .r)
  | g0wait (t) (hlt : t < s.th.length) (hloc : (s.get t).loc = .g0) (hg : s.tc > 0) : Step s (s.at t .g1)
  | g0done (t) (hlt : t < s.th.length) (hloc : (s.get t).loc = .g0) (hg : ¬ s.tc > 0) : Step s (s.at t .g4)
  | g1 (t) (hlt : t < s.th.length) (hloc : (s.get t).loc = .g1) (hg : True) : Step s ({ s with icw := s.icw ++ [t] }.at t .g2)
  | g2 (t) (hlt : t < s.th.length) (hloc : (s.get t).loc = .g2) (hg : t ∉ s.icw) : Step s (s.at t .g3)
  | g2timeout (t) (hlt : t < s.th.length) (hloc : (s.get t).loc = .g2) (hg : t ∈ s.icw) :
      Step s ({ s with icw := s.icw.erase t }.at t .g3)
  | g3 (t) (hlt : t < s.th.length) (hloc : (s.get t).loc = .g3) (hg : True) : Step s ({ s with icw := s.icw.tail }.at t .g0)
  | g4 (t) (hlt : t < s.th.length) (hloc : (s.get t).loc = .g4) (hg : s.V = none) :
      Step s ({ s with V := some t, result := none, exn := none, batch := [], blen := 0, tc := 0, ec := 0, g := 0 }.at t .g5)
  | g5 (t) (hlt : t < s.th.length) (hloc : (s.get t).loc = .g5) (hg : True) : Step s ({ s with V := none }.at t .g6)
  | g6 (t) (hlt : t < s.th.length) (hloc : (s.get t).loc = .g6) (hg : True) : Step s ({ s with E := none }.at t .g7)
  | g7 (t) (hlt : t < s.th.length) (hloc : (s.get t).loc = .g7) (hg : True) : Step s ({ s with ecw := [] }.at t .r)
  | ret (t) (hlt : t < s.th.length) (hloc : (s.get t).loc = .r) (hg : (s.get t).loc_res.isSome = true) :
      Step s (s.set t { s.get t with loc := .idle,
                                     outs := (s.get t).outs ++ [((s.get t).loc_res.getD (.exc 0), (s.get t).idx)] })

theorem step_sound (s s' : St) (a : Act) (h : step s a = some s') : Step s s' := by
  -- the thread exists; then along the location, in the order of the table of `step`, and along the guard where there is one:
  -- a branch that returns `none` contradicts `h`, the others are the constructors of `Step`
  cases a with
  | step t =>
    simp only [step] at h
    split at h
    · cases h
    have hlt : t < s.th.length := Nat.lt_of_not_le ‹_›
    split at h
    next hl => split at h <;> cases h; exact .start t hlt hl ‹_›
    next hl => split at h <;> cases h; exact .a0 t hlt hl ‹_›
    next hl =>
      split at h <;> cases h
      · exact .a1ok t hlt hl ‹_›
      · exact .a1fail t hlt hl ‹_›
    next hl => cases h; exact .a2 t hlt hl trivial
    next hl => cases h; exact .a3 t hlt hl trivial
    next hl => cases h; exact .a4 t hlt hl trivial
    next hl => cases h; exact .a7 t hlt hl trivial
    next hl => cases h; exact .a8 t hlt hl trivial
    next hl => split at h <;> cases h; exact .a9 t hlt hl ‹_›
    next hl => cases h; exact .b0 t hlt hl trivial
    next hl =>
      split at h
      · split at h <;> cases h
        · exact .b1exec t hlt hl ⟨‹_›, ‹_›⟩
        · exact .b1wait t hlt hl ⟨‹_›, ‹_›⟩
      · cases h
    next hl => split at h <;> cases h; exact .b2 t hlt hl ‹_›
    next => cases h   -- b3 needs `Act.fret`
    next hl => cases h; exact .b4 t hlt hl trivial
    next hl => cases h; exact .c0 t hlt hl trivial
    next hl => cases h; exact .c1 t hlt hl trivial
    next hl => split at h <;> cases h; exact .c2 t hlt hl ‹_›
    next hl => split at h <;> cases h; exact .d0 t hlt hl ‹_›
    next hl => cases h; exact .d1 t hlt hl trivial
    next hl =>
      split at h <;> cases h
      · exact .d2exec t hlt hl ‹_›
      · exact .d2plain t hlt hl ‹_›
    next hl =>
      split at h <;> cases h
      · exact .g0wait t hlt hl ‹_›
      · exact .g0done t hlt hl ‹_›
    next hl => cases h; exact .g1 t hlt hl trivial
    next hl => split at h <;> cases h; exact .g2 t hlt hl ‹_›
    next hl => cases h; exact .g3 t hlt hl trivial
    next hl => split at h <;> cases h; exact .g4 t hlt hl ‹_›
    next hl => cases h; exact .g5 t hlt hl trivial
    next hl => cases h; exact .g6 t hlt hl trivial
    next hl => cases h; exact .g7 t hlt hl trivial
    next hl => split at h <;> cases h; exact .ret t hlt hl ‹_›
  | timeout t =>
    simp only [step] at h
    split at h
    · cases h
    have hlt : t < s.th.length := Nat.lt_of_not_le ‹_›
    split at h
    next hl => split at h <;> cases h; exact .a9timeout t hlt hl ‹_›
    next hl => split at h <;> cases h; exact .g2timeout t hlt hl ‹_›
    next => cases h
  | fret t fail =>
    simp only [step] at h
    split at h
    · cases h
    have hlt : t < s.th.length := Nat.lt_of_not_le ‹_›
    split at h
    next hl =>
      split at h <;> cases h
      · exact .b3fail t hlt hl trivial
      · exact .b3ok t hlt hl trivial
    next => cases h

theorem step_complete (s s' : St) (h : Step s s') : ∃ a, step s a = some s' := by
  cases h
  case a9timeout t hlt hloc hg => exact ⟨.timeout t, by simp [step, Nat.not_le.mpr hlt, hloc, hg]⟩
  case g2timeout t hlt hloc hg => exact ⟨.timeout t, by simp [step, Nat.not_le.mpr hlt, hloc, hg]⟩
  case b3ok t hlt hloc hg => exact ⟨.fret t false, by simp [step, Nat.not_le.mpr hlt, hloc]⟩
  case b3fail t hlt hloc hg => exact ⟨.fret t true, by simp [step, Nat.not_le.mpr hlt, hloc]⟩
  all_goals
    rename_i t hlt hloc hg
    exact ⟨.step t, by simp [step, Nat.not_le.mpr hlt, hloc, hg]⟩

end Runner
