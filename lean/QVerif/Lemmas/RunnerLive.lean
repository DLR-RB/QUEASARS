import QVerif.Lemmas.RunnerData
import QVerif.Lemmas.RunnerProg
namespace Runner

/-! ### Progress: in every state that satisfies the invariants and is not quiescent, some step lowers `μ`

A thread whose guard holds (`Ready`) and whose step meets the side conditions of `mu_of_step` (`Side`) makes progress.  If no
thread does, every thread sits at one of the nine locations where one of the two can fail (`Loc.canWait`), and the invariant
then leaves no room: see `progress`. -/

def Quiescent (s : St) : Prop := ∀ t, (s.get t).loc = .idle ∧ (s.get t).todo = []

macro "loc_ne" h:ident : tactic => `(tactic| (rw [$h:ident]; decide))

section
variable {s : St} {t : Nat}

theorem Ready.progress (hc : CInv s) (h : Ready s t) (hs : Side s t) : ∃ s', Step s s' ∧ muLt s' s :=
  let ⟨s', _, hst, hu, _⟩ := h.acts; ⟨s', hst, hu.mu_of_step hc hst hs⟩

/-- the locations where `Ready` or `Side` can fail -/
def Loc.canWait : Loc → Bool
  | .idle | .a0 | .b1 | .b2 | .c2 | .d0 | .g3 | .g4 | .r => true
  | _ => false

theorem Ready.of_free (h : (s.get t).loc.canWait = false) : Ready s t := by
  unfold Ready
  cases hl : (s.get t).loc
  case idle | a0 | b1 | b2 | c2 | d0 | g4 | r => rw [hl] at h; cases h
  all_goals trivial

theorem Side.of_free (h : (s.get t).loc.canWait = false) : Side s t := by
  unfold Side
  cases hl : (s.get t).loc
  case a0 | b1 | g3 => rw [hl] at h; cases h
  all_goals trivial

end

theorem Loc.canWait_cases : ∀ {l : Loc}, l.canWait = true →
    l = .idle ∨ l = .a0 ∨ l = .b1 ∨ l = .b2 ∨ l = .c2 ∨ l = .d0 ∨ l = .g3 ∨ l = .g4 ∨ l = .r := by
  intro l; cases l <;> decide
theorem Loc.vHold_canWait : ∀ {l : Loc}, l.vHold = true → l.canWait = true → l = .b2 := by
  intro l; cases l <;> decide
theorem Loc.eHold_canWait : ∀ {l : Loc}, l.eHold = true → l.canWait = true → l.execOnly = true := by
  intro l; cases l <;> decide
theorem Loc.member_canWait : ∀ {l : Loc}, l.member = true → l.canWait = true → l = .b1 ∨ l = .b2 ∨ l = .c2 ∨ l = .d0 := by
  intro l; cases l <;> decide

theorem progress {s : St} (hc : CInv s) (hd : DInv s) (hnq : ¬ Quiescent s) : ∃ s', Step s s' ∧ muLt s' s := by
  apply Classical.byContradiction; intro hno
  have stuck (t : Nat) (hr : Ready s t) (hs : Side s t) : False := hno (hr.progress hc hs)
  -- every thread is at a location where it can be held up
  have hw (t) : (s.get t).loc.canWait = true :=
    Classical.byContradiction fun h => by
      have h : (s.get t).loc.canWait = false := by simpa using h
      exact stuck t (.of_free h) (.of_free h)
  -- a thread about to return holds its outcome
  have n_r (t) : (s.get t).loc ≠ .r := fun h =>
    let ⟨_, _, _, hres, _⟩ := hd.gathered t (by rw [hasRes_of_loc h]; rfl)
    stuck t (by simp [Ready, h, hres]) (by simp [Side, h])
  -- the variable lock is free: its holder would be the executor-elect at `b2`, and the entry lock it waits for could
  -- only be held by another executor
  have hV : s.V = none := (lock_free hc.lockV).mpr fun v => Bool.eq_false_iff.mpr fun hv' => by
    have hv : (s.get v).loc = .b2 := Loc.vHold_canWait hv' (hw v)
    refine stuck v ?_ (by simp [Side, hv])
    simp only [Ready, hv]
    refine (lock_free hc.lockE).mpr fun e => Bool.eq_false_iff.mpr fun he => ?_
    have hx : (s.get e).inExec = true := by
      simp only [TS.holdsE, TS.inExec, Bool.or_eq_true] at he ⊢
      exact he.imp_left (Loc.eHold_canWait · (hw e))
    cases hc.oneExec e v hx (by rw [inExec_of_loc hv]; rfl)
    simp [holdsE_of_loc hv, Loc.eHold, Loc.gath] at he
  have n_b2 (t) : (s.get t).loc ≠ .b2 := fun h => by
    have := (hc.lockV t).mpr (by rw [holdsV_of_loc h]; rfl)
    rw [hV] at this; cases this
  have n_b1 (t) : (s.get t).loc ≠ .b1 := fun h =>
    stuck t (by simp [Ready, h, hV]) (by
      simp only [Side, h]
      intro u hu
      have := hw u
      rw [hu] at this; cases this)
  have n_d0 (t) : (s.get t).loc ≠ .d0 := fun h => stuck t (by simp [Ready, h, hV]) (by simp [Side, h])
  have n_g4 (t) : (s.get t).loc ≠ .g4 := fun h => stuck t (by simp [Ready, h, hV]) (by simp [Side, h])
  -- a waiter at `c2` has not been notified
  have h_c2 (t) (h : (s.get t).loc = .c2) : t ∈ s.icw :=
    Classical.byContradiction fun hn => stuck t (by simp [Ready, h, hn]) (by simp [Side, h])
  -- the executor is not in its drain loop: the members it waits for are all in the waiter list, and its `notify` wakes one
  have n_g3 (t) : (s.get t).loc ≠ .g3 := fun h => by
    refine stuck t (by simp [Ready, h]) ?_
    simp only [Side, h]
    by_cases htc : s.tc = 0
    · exact .inl htc
    · obtain ⟨m, _, hm⟩ := member_exists hc (Nat.pos_of_ne_zero htc)
      have hm2 : (s.get m).loc = .c2 := by
        rcases Loc.member_canWait hm (hw m) with e | e | e | e
        · exact absurd e (n_b1 m)
        · exact absurd e (n_b2 m)
        · exact e
        · exact absurd e (n_d0 m)
      exact .inr (drain_head hc h (h_c2 m hm2))
  -- what is left: idle threads, callers waiting for the entry lock, waiters at `c2`
  have hall (t) : (s.get t).loc = .idle ∨ (s.get t).loc = .a0 ∨ (s.get t).loc = .c2 := by
    rcases Loc.canWait_cases (hw t) with e | e | e | e | e | e | e | e | e
    · exact .inl e
    · exact .inr (.inl e)
    · exact absurd e (n_b1 t)
    · exact absurd e (n_b2 t)
    · exact .inr (.inr e)
    · exact absurd e (n_d0 t)
    · exact absurd e (n_g3 t)
    · exact absurd e (n_g4 t)
    · exact absurd e (n_r t)
  -- none of them holds the entry lock
  have hE : s.E = none := (lock_free hc.lockE).mpr fun e => by
    rcases hall e with h | h | h <;> simp [holdsE_of_loc h, Loc.eHold, Loc.gath]
  have n_a0 (t) : (s.get t).loc ≠ .a0 := fun h => stuck t (by simp [Ready, h, hE]) (by simp [Side, h, hV])
  have hrest (t) : (s.get t).loc = .idle ∨ (s.get t).loc = .c2 := (hall t).imp_right fun h => h.resolve_left (n_a0 t)
  -- waiters without an executor: all members have arrived, which the open-phase invariant forbids
  have n_c2 (t) : (s.get t).loc ≠ .c2 := fun ht => by
    have hopen : ∀ u, (s.get u).inExec = false := by
      intro u
      rcases hrest u with h1 | h1 <;> rw [inExec_of_loc h1] <;> simp [Loc.execOnly, Loc.gath]
    obtain ⟨_, hg0, har⟩ := hc.openPh hopen
    have hpos := member_pos hc t (by rw [ht]; rfl)
    have heq : s.th.countP TS.isMember = s.th.countP TS.isArrived := by
      apply List.countP_congr
      intro x hx
      obtain ⟨i, _, rfl⟩ := get_of_mem hx
      rcases hrest i with h1 | h1 <;> simp [TS.isMember, TS.isArrived, h1, Loc.member, Loc.arrived]
    have h1 := hc.tcCount
    have h2 := hc.ecCount
    omega
  refine hnq fun t => ?_
  have hi : (s.get t).loc = .idle := (hrest t).resolve_right (n_c2 t)
  refine ⟨hi, Classical.byContradiction fun htd => ?_⟩
  exact stuck t (by simp [Ready, hi, htd]) (by simp [Side, hi])

theorem can_complete (s : St) (hc : CInv s) (hd : DInv s) : ∃ s', Run s s' ∧ Quiescent s' := by
  by_cases hq : Quiescent s
  · exact ⟨s, .refl s, hq⟩
  · obtain ⟨s1, hs, hmu⟩ := progress hc hd hq
    obtain ⟨a, ha⟩ := step_complete s s1 hs
    obtain ⟨s', hrun, hq'⟩ := can_complete s1 (cinv_step hc hs) (dinv_step hc hd hs)
    exact ⟨s', .cons a ha hrun, hq'⟩
termination_by (callsLeft s, phi s)
decreasing_by
  rcases hmu with h | ⟨h1, h2⟩
  · exact Prod.Lex.left _ _ h
  · rw [h1]; exact Prod.Lex.right _ h2

/-- C08 (`Props/C08.lean`): from every reachable state a finite schedule ends with every thread idle and no call left -/
theorem can_always_complete (th0 : List TS) (h0 : ∀ x ∈ th0, x.loc = .idle) {s : St} (hr : Reachable th0 s) :
    ∃ s', Run s s' ∧ Quiescent s' := by
  obtain ⟨hc, hd⟩ := dinv_reachable th0 h0 hr
  exact can_complete s hc hd

end Runner
