import QVerif.Lemmas.Encoder
import QVerif.Lemmas.Sums

/-! One domain-wall variable (C01/C02).  The qubits of the variable, with a virtual 1 in front and a virtual 0 behind, form a
0/1 sequence `bitOf`; the value terms are its steps `bitOf k − bitOf (k+1)`.  Hence they telescope to 1, weights that never
decrease contract with them to at least the first weight (Abel summation), and the viability term is twice the number of steps
equal to −1 (reverse walls).  A decoded variable (window `1…10…0`) has indicator value terms and no reverse wall; an
undecodable one has a reverse wall. -/

namespace QVerif.Encoder

theorem zd_cases (v : Var) (bits : Bits) (k : Nat) : zd v bits k = 1 ∨ zd v bits k = -1 := by
  unfold zd; split
  · right; rfl
  · split
    · left; rfl
    · split
      · right; rfl
      · left; rfl

theorem zd_zero (v : Var) (bits : Bits) : zd v bits 0 = -1 := by simp [zd]
theorem zd_last (v : Var) (bits : Bits) : zd v bits (v.nq + 1) = 1 := by simp [zd]

/-- the value term without the `nq = 0` special case -/
def vtRaw (v : Var) (bits : Bits) (idx : Nat) : Rat := ((zd v bits (idx + 1) - zd v bits idx : Int) : Rat) / 2

def bitOf (v : Var) (bits : Bits) (k : Nat) : Rat := if zd v bits k = -1 then 1 else 0

theorem bitOf_cases (v : Var) (bits : Bits) (k : Nat) : bitOf v bits k = 0 ∨ bitOf v bits k = 1 := by
  unfold bitOf; split
  · right; rfl
  · left; rfl

theorem bitOf_zero (v : Var) (bits : Bits) : bitOf v bits 0 = 1 := by
  unfold bitOf; rw [zd_zero]; rfl

theorem bitOf_last (v : Var) (bits : Bits) : bitOf v bits (v.nq + 1) = 0 := by
  unfold bitOf; rw [zd_last]; rfl

theorem bitOf_succ (v : Var) (bits : Bits) (i : Nat) (hi : i < v.nq) :
    bitOf v bits (i + 1) = if (window v bits).getD i false then 1 else 0 := by
  have hw : (window v bits).getD i false = bits.getD (v.qstart + (i + 1) - 1) false := by
    unfold window
    simp only [List.getD_eq_getElem?_getD, List.getElem?_take, hi, ↓reduceIte, List.getElem?_drop, Nat.add_succ_sub_one]
  unfold bitOf zd
  rw [if_neg (Nat.succ_ne_zero i), if_neg (show ¬ (i + 1 = v.nq + 1) by omega), hw]
  cases bits.getD (v.qstart + (i + 1) - 1) false <;> rfl

theorem vtRaw_eq (v : Var) (bits : Bits) (k : Nat) : vtRaw v bits k = bitOf v bits k - bitOf v bits (k + 1) := by
  unfold vtRaw bitOf
  rcases zd_cases v bits k with h1 | h1 <;> rcases zd_cases v bits (k + 1) with h2 | h2 <;> rw [h1, h2] <;> decide +kernel

theorem valueTerm_eq_vtRaw (v : Var) (bits : Bits) (idx : Nat) (h : idx ≤ v.nq) : valueTerm v bits idx = vtRaw v bits idx := by
  unfold valueTerm
  split
  · rename_i h0
    have : idx = 0 := by omega
    subst this
    rw [vtRaw_eq, bitOf_zero, show (0 + 1) = v.nq + 1 by omega, bitOf_last]
    exact (rat_sub_zero _).symm
  · rfl

theorem valueTerm_cases (v : Var) (bits : Bits) (idx : Nat) :
    valueTerm v bits idx = 1 ∨ valueTerm v bits idx = -1 ∨ valueTerm v bits idx = 0 := by
  unfold valueTerm
  split
  · left; rfl
  · change vtRaw v bits idx = 1 ∨ vtRaw v bits idx = -1 ∨ vtRaw v bits idx = 0
    rw [vtRaw_eq]
    rcases bitOf_cases v bits idx with h1 | h1 <;> rcases bitOf_cases v bits (idx + 1) with h2 | h2 <;> rw [h1, h2] <;>
      decide +kernel

theorem vtRaw_sum_one (v : Var) (bits : Bits) : sumTo (vtRaw v bits) (v.nq + 1) = 1 := by
  rw [sumTo_congr _ fun k _ => vtRaw_eq v bits k, sumTo_telescope, bitOf_zero, bitOf_last]
  exact rat_sub_zero _

theorem abel_bound (v : Var) (bits : Bits) (w : Nat → Rat) (hw : ∀ k, k < v.nq → w k ≤ w (k + 1)) :
    w 0 ≤ sumTo (fun k => w k * vtRaw v bits k) (v.nq + 1) := by
  have hu : ∀ k, k ≤ v.nq → 0 ≤ bitOf v bits k := fun k _ => by
    rcases bitOf_cases v bits k with h | h <;> rw [h]
    · exact Rat.le_refl
    · exact Rat.natCast_nonneg (a := 1)
  have := sumTo_abel (bitOf v bits) w v.nq hu hw
  rw [bitOf_zero, bitOf_last, Rat.mul_one, Rat.mul_zero, rat_sub_zero] at this
  rwa [sumTo_congr _ (fun k _ => by rw [vtRaw_eq])]

def negCount (v : Var) (bits : Bits) : Nat := ((List.range (v.nq + 1)).filter (fun i => decide (vtRaw v bits i = -1))).length

theorem wall_eq (v : Var) (bits : Bits) (k : Nat) :
    ((1 - zd v bits k * zd v bits (k + 1) : Int) : Rat) / 2 = vtRaw v bits k + 2 * (if vtRaw v bits k = -1 then 1 else 0) := by
  unfold vtRaw
  rcases zd_cases v bits k with h1 | h1 <;> rcases zd_cases v bits (k + 1) with h2 | h2 <;> rw [h1, h2] <;> decide +kernel

/-- every wall term is the value term, plus 2 for a reverse wall; the value terms sum to 1 -/
theorem viability_eq (v : Var) (bits : Bits) : viability v bits = 2 * (negCount v bits : Rat) := by
  have h : ((List.range (v.nq + 1)).map (fun k => ((1 - zd v bits k * zd v bits (k + 1) : Int) : Rat) / 2)).sum =
      1 + 2 * (negCount v bits : Rat) := by
    rw [List.map_congr_left (fun k _ => wall_eq v bits k), sum_map_add, sum_range_eq_sumTo, vtRaw_sum_one, sum_map_mul_left,
      sum_indicator_eq_count]
    rfl
  unfold viability
  split
  · -- without qubits the only wall is the virtual one: the sum is 1
    rename_i h0
    rw [h0] at h
    simp only [List.range_succ, List.range_zero, List.nil_append, List.map_cons, List.map_nil, List.sum_cons, List.sum_nil,
      zd_zero] at h
    rw [show zd v bits (0 + 1) = 1 by rw [← zd_last v bits, h0]] at h
    grind
  · rw [h]; grind

theorem viability_nonneg (v : Var) (bits : Bits) : 0 ≤ viability v bits := by
  rw [viability_eq]
  exact Rat.mul_nonneg (Rat.natCast_nonneg (a := 2)) Rat.natCast_nonneg

theorem wallWindow_getD (n k i : Nat) : (wallWindow n k).getD i false = decide (i < k) := by
  unfold wallWindow
  simp only [List.getD_eq_getElem?_getD, List.getElem?_append, List.length_replicate, List.getElem?_replicate]
  by_cases h : i < k
  · simp [h]
  · simp only [h, ↓reduceIte, decide_false]
    split <;> simp

structure DecodedAt (v : Var) (bits : Bits) (k : Nat) : Prop where
  hk : k ≤ v.nq
  hlen : (window v bits).length = v.nq
  hw : window v bits = wallWindow v.nq k
  hn : v.nvals = v.nq + 1

theorem DecodedAt.decode {v : Var} {bits : Bits} {k : Nat} (h : DecodedAt v bits k) : decodeVar v bits = some (v.lo + k) :=
  decodeVar_of_window h.hk h.hw

theorem DecodedAt.of_decode {v : Var} {bits : Bits} {s : Nat} (hwl : (window v bits).length = v.nq) (hn : v.nvals = v.nq + 1)
    (hs : decodeVar v bits = some s) : ∃ k, DecodedAt v bits k := by
  obtain ⟨k, hk, _⟩ := decodeVar_eq_some_iff.mp hs
  obtain ⟨h1, h2⟩ := decodeWindow_some _ _ hk
  rw [hwl] at h1 h2
  exact ⟨k, h1, hwl, h2, hn⟩

theorem bitOf_decoded {v : Var} {bits : Bits} {k : Nat} (h : DecodedAt v bits k) (j : Nat) (hj : j ≤ v.nq + 1) :
    bitOf v bits j = if j ≤ k then 1 else 0 := by
  have := h.hk
  cases j with
  | zero => rw [bitOf_zero, if_pos (Nat.zero_le k)]
  | succ i =>
    by_cases hl : i = v.nq
    · subst hl; rw [bitOf_last, if_neg (by omega)]
    · rw [bitOf_succ v bits i (by omega), h.hw, wallWindow_getD]
      simp only [decide_eq_true_eq, Nat.succ_le_iff]

theorem valueTerm_decoded {v : Var} {bits : Bits} {k : Nat} (h : DecodedAt v bits k) (idx : Nat) (hidx : idx ≤ v.nq) :
    valueTerm v bits idx = if idx = k then 1 else 0 := by
  rw [valueTerm_eq_vtRaw v bits idx hidx, vtRaw_eq, bitOf_decoded h idx (by omega), bitOf_decoded h (idx + 1) (by omega)]
  rcases Nat.lt_trichotomy idx k with hik | hik | hik
  · rw [if_pos (by omega), if_pos (by omega), if_neg (by omega)]; exact Rat.sub_self
  · rw [if_pos (by omega), if_neg (by omega), if_pos hik]; exact rat_sub_zero _
  · rw [if_neg (by omega), if_neg (by omega), if_neg (by omega)]; exact Rat.sub_self

theorem viability_decoded {v : Var} {bits : Bits} {k : Nat} (h : DecodedAt v bits k) : viability v bits = 0 := by
  have : negCount v bits = 0 := by
    unfold negCount
    rw [List.length_eq_zero_iff, List.filter_eq_nil_iff]
    intro i hi
    have hi := List.mem_range.mp hi
    rw [← valueTerm_eq_vtRaw v bits i (by omega), valueTerm_decoded h i (by omega)]
    split <;> decide +kernel
  rw [viability_eq, this]
  exact Rat.mul_zero _

theorem exists_reverse_pair_after_false : ∀ (t : Bits), t.any id = true →
    ∃ i, (false :: t)[i]? = some false ∧ (false :: t)[i + 1]? = some true
  | true :: _, _ => ⟨0, rfl, rfl⟩
  | false :: t', h => by
      obtain ⟨i, h1, h2⟩ := exists_reverse_pair_after_false t' (by simpa using h)
      exact ⟨i + 1, h1, h2⟩

theorem exists_reverse_pair : ∀ (w : Bits), decodeWindow w = none → ∃ i, w[i]? = some false ∧ w[i + 1]? = some true
  | true :: t, h => by
      simp only [decodeWindow, Option.map_eq_none_iff] at h
      obtain ⟨i, h1, h2⟩ := exists_reverse_pair t h
      exact ⟨i + 1, h1, h2⟩
  | false :: t, h => by
      simp only [decodeWindow] at h
      split at h
      · rename_i hany; exact exists_reverse_pair_after_false t hany
      · cases h

theorem negCount_pos_of_undecodable (v : Var) (bits : Bits) (hlen : (window v bits).length = v.nq)
    (hnone : decodeVar v bits = none) : 1 ≤ negCount v bits := by
  obtain ⟨i, h1, h2⟩ := exists_reverse_pair _ (decodeVar_eq_none_iff.mp hnone)
  have hi : i + 1 < v.nq := hlen ▸ (List.getElem?_eq_some_iff.mp h2).1
  have hv : vtRaw v bits (i + 1) = -1 := by
    rw [vtRaw_eq, bitOf_succ v bits i (by omega), bitOf_succ v bits (i + 1) hi, List.getD_eq_getElem?_getD,
      List.getD_eq_getElem?_getD, h1, h2]
    exact (Rat.sub_eq_add_neg _ _).trans (Rat.zero_add _)
  exact List.length_pos_iff.mpr (List.ne_nil_of_mem (a := i + 1)
    (List.mem_filter.mpr ⟨List.mem_range.mpr (by omega), decide_eq_true hv⟩))

theorem mem_values_iff {v : Var} {s : Nat} : s ∈ values v ↔ v.lo ≤ s ∧ s < v.lo + v.nvals := by
  unfold values
  simp only [List.mem_map, List.mem_range]
  constructor
  · rintro ⟨i, hi, rfl⟩; omega
  · intro h; exact ⟨s - v.lo, by omega, by omega⟩

theorem values_sub_le {v : Var} {s : Nat} (h : s ∈ values v) : s - v.lo ≤ v.nq := by
  have := mem_values_iff.mp h
  simp only [Var.nq]; omega

theorem sum_values_eq_range (v : Var) (bits : Bits) (g : Nat → Rat) :
    ((values v).map (fun s => g s * valueTerm v bits (s - v.lo))).sum =
      ((List.range v.nvals).map (fun i => g (i + v.lo) * valueTerm v bits i)).sum := by
  unfold values
  rw [List.map_map]
  exact congrArg List.sum (List.map_congr_left (fun i _ => by simp only [Function.comp, Nat.add_sub_cancel]))

theorem range_sum_ge (v : Var) (bits : Bits) (hn : v.nvals = v.nq + 1) (w : Nat → Rat)
    (hmono : ∀ k, k < v.nq → w k ≤ w (k + 1)) :
    w 0 ≤ ((List.range v.nvals).map (fun i => w i * valueTerm v bits i)).sum := by
  rw [sum_range_eq_sumTo, hn, sumTo_congr _ (fun i hi => by rw [valueTerm_eq_vtRaw v bits i (by omega)])]
  exact abel_bound v bits w hmono

theorem range_sum_decoded {v : Var} {bits : Bits} {k : Nat} (h : DecodedAt v bits k) (w : Nat → Rat) :
    ((List.range v.nvals).map (fun i => w i * valueTerm v bits i)).sum = w k := by
  have := h.hn; have := h.hk
  rw [sum_range_eq_sumTo, sumTo_congr (g := fun i => if i = k then w i else 0) _ (fun i hi => by
    rw [valueTerm_decoded h i (by omega)]; split <;> grind), sumTo_ite_eq, if_pos (by omega)]

theorem sum_values_decoded {v : Var} {bits : Bits} {k : Nat} (h : DecodedAt v bits k) (g : Nat → Rat) :
    ((values v).map (fun s => g s * valueTerm v bits (s - v.lo))).sum = g (v.lo + k) := by
  rw [sum_values_eq_range, range_sum_decoded h, Nat.add_comm]

/-- `negV`/`negLen` use only `x.var`; they take the `OpVar` because the slots of the lower bound are `(x.key, s)` -/
def negV (x : OpVar) (bits : Bits) (s : Nat) : Bool := decide (valueTerm x.var bits (s - x.var.lo) = -1)

def negLen (x : OpVar) (bits : Bits) : Nat := ((values x.var).filter (negV x bits)).length

theorem negLen_eq_negCount (x : OpVar) (bits : Bits) (hn : x.var.nvals = x.var.nq + 1) : negLen x bits = negCount x.var bits := by
  unfold negLen negCount values
  rw [List.filter_map, List.length_map, hn]
  congr 1
  apply List.filter_congr
  intro i hi
  have hi := List.mem_range.mp hi
  simp only [Function.comp, negV, Nat.add_sub_cancel, valueTerm_eq_vtRaw x.var bits i (by omega)]

end QVerif.Encoder
