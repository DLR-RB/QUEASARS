import QVerif.Model.EncoderPoly

/-! `evalPoly` commutes with every builder of the operator (`eval_…`) and is unchanged by `normalize`; together: `eval_energyPolyOf`. -/

namespace QVerif.Encoder

@[simp] theorem evalPoly_nil (b : Bits) : evalPoly b [] = 0 := rfl
@[simp] theorem evalPoly_cons (b : Bits) (t : Rat × Mono) (p : Poly) :
    evalPoly b (t :: p) = t.1 * evalMono b t.2 + evalPoly b p := rfl
@[simp] theorem evalMono_nil (b : Bits) : evalMono b [] = 1 := rfl
@[simp] theorem evalMono_cons (b : Bits) (q : Nat) (m : Mono) : evalMono b (q :: m) = zval b q * evalMono b m := rfl

theorem evalMono_append (b : Bits) : ∀ m m' : Mono, evalMono b (m ++ m') = evalMono b m * evalMono b m'
  | [], m' => by simp [Rat.one_mul]
  | q :: m, m' => by simp [evalMono_append b m m', Rat.mul_assoc]

theorem evalPoly_append (b : Bits) : ∀ p q : Poly, evalPoly b (p ++ q) = evalPoly b p + evalPoly b q
  | [], q => by simp [Rat.zero_add]
  | t :: p, q => by simp [evalPoly_append b p q, Rat.add_assoc]

@[simp] theorem eval_padd (b : Bits) (p q : Poly) : evalPoly b (padd p q) = evalPoly b p + evalPoly b q :=
  evalPoly_append b p q

@[simp] theorem eval_pconst (b : Bits) (c : Rat) : evalPoly b (pconst c) = c := by
  simp [pconst, Rat.mul_one, Rat.add_zero]

@[simp] theorem eval_pz (b : Bits) (q : Nat) : evalPoly b (pz q) = zval b q := by
  simp [pz, Rat.mul_one, Rat.add_zero, Rat.one_mul]

theorem eval_map_mul (b : Bits) (a : Rat × Mono) : ∀ q : Poly,
    evalPoly b (q.map (fun t => (a.1 * t.1, a.2 ++ t.2))) = a.1 * evalMono b a.2 * evalPoly b q
  | [] => by simp [Rat.mul_zero]
  | t :: q => by
      have ih := eval_map_mul b a q
      simp only [List.map_cons, evalPoly_cons, evalMono_append] at ih ⊢
      rw [ih]; grind

@[simp] theorem eval_pscale (b : Bits) (c : Rat) (p : Poly) : evalPoly b (pscale c p) = c * evalPoly b p := by
  simpa [pscale, Rat.mul_one] using eval_map_mul b (c, []) p

@[simp] theorem eval_pmul (b : Bits) : ∀ p q : Poly, evalPoly b (pmul p q) = evalPoly b p * evalPoly b q
  | [], q => by simp [pmul, Rat.zero_mul]
  | a :: p, q => by
      have ih := eval_pmul b p q
      simp only [pmul, List.flatMap_cons, evalPoly_append, evalPoly_cons] at ih ⊢
      rw [ih, eval_map_mul]; grind

@[simp] theorem eval_psum (b : Bits) : ∀ ps : List Poly, evalPoly b (psum ps) = (ps.map (evalPoly b)).sum
  | [] => by simp [psum]
  | p :: ps => by
      have ih := eval_psum b ps
      simp only [psum, List.flatten_cons, evalPoly_append, List.map_cons, List.sum_cons] at ih ⊢
      rw [ih]

theorem zval_sq (b : Bits) (q : Nat) : zval b q * zval b q = 1 := by
  unfold zval; split <;> grind

theorem evalMono_perm (b : Bits) {l₁ l₂ : Mono} (h : l₁.Perm l₂) : evalMono b l₁ = evalMono b l₂ := by
  induction h with
  | nil => rfl
  | cons x _ ih => simp [ih]
  | swap x y l => simp only [evalMono_cons]; grind
  | trans _ _ ih1 ih2 => rw [ih1, ih2]

theorem evalMono_cancelPairs (b : Bits) : ∀ m : Mono, evalMono b (cancelPairs m) = evalMono b m
  | [] => rfl
  | [_] => rfl
  | a :: c :: t => by
      unfold cancelPairs
      split
      · -- equal neighbours cancel: `Z·Z = I`
        rw [evalMono_cancelPairs b t]
        simp only [evalMono_cons]
        have := zval_sq b a
        grind
      · simp only [evalMono_cons]
        rw [evalMono_cancelPairs b (c :: t)]
        simp only [evalMono_cons]

theorem evalMono_normMono (b : Bits) (m : Mono) : evalMono b (normMono m) = evalMono b m := by
  unfold normMono
  rw [evalMono_cancelPairs]
  exact evalMono_perm b (List.mergeSort_perm _ _)

theorem eval_addTerm (b : Bits) : ∀ (p : Poly) (t : Rat × Mono), evalPoly b (addTerm p t) = evalPoly b p + t.1 * evalMono b t.2
  | [], t => by simp [addTerm, Rat.add_zero, Rat.zero_add]
  | (c', m') :: rest, t => by
      unfold addTerm
      split
      · rename_i h
        simp only [evalPoly_cons, h]
        grind
      · simp only [evalPoly_cons, eval_addTerm b rest t]
        grind

theorem eval_foldl_addTerm (b : Bits) : ∀ (p acc : Poly),
    evalPoly b (p.foldl (fun acc t => addTerm acc (t.1, normMono t.2)) acc) = evalPoly b acc + evalPoly b p
  | [], acc => by simp [Rat.add_zero]
  | t :: p, acc => by
      simp only [List.foldl_cons, eval_foldl_addTerm b p, eval_addTerm, evalMono_normMono, evalPoly_cons]
      grind

theorem eval_filter_nonzero (b : Bits) : ∀ p : Poly, evalPoly b (p.filter (fun t => decide (t.1 ≠ 0))) = evalPoly b p
  | [] => rfl
  | t :: p => by
      by_cases h0 : t.1 = 0
      · rw [List.filter_cons_of_neg (by simpa using h0), eval_filter_nonzero b p, evalPoly_cons, h0, Rat.zero_mul, Rat.zero_add]
      · rw [List.filter_cons_of_pos (by simpa using h0), evalPoly_cons, evalPoly_cons, eval_filter_nonzero b p]

theorem eval_normalize (b : Bits) (p : Poly) : evalPoly b (normalize p) = evalPoly b p := by
  unfold normalize
  rw [eval_filter_nonzero, eval_foldl_addTerm]
  simp [Rat.zero_add]

theorem eval_zdP (b : Bits) (v : Var) (k : Nat) : evalPoly b (zdP v k) = ((zd v b k : Int) : Rat) := by
  unfold zdP zd
  split
  · simp
  · split
    · simp
    · simp only [eval_pz, zval]
      split <;> simp

theorem eval_valueTermP (b : Bits) (v : Var) (idx : Nat) : evalPoly b (valueTermP v idx) = valueTerm v b idx := by
  unfold valueTermP valueTerm
  split
  · simp
  · simp only [eval_pscale, eval_padd, eval_zdP]
    grind

theorem eval_viabilityP (b : Bits) (v : Var) : evalPoly b (viabilityP v) = viability v b := by
  unfold viabilityP viability
  split
  · simp
  · simp only [eval_psum, List.map_append, List.map_map, List.sum_append, List.map_cons, List.map_nil, List.sum_cons,
      List.sum_nil, eval_pconst, Function.comp_def, eval_pscale, eval_padd, eval_pmul, eval_zdP]
    grind

theorem eval_pairTermP (b : Bits) (t : PairTerm) : evalPoly b (pairTermP t) = pairTermValue t b := by
  simp only [pairTermP, pairTermValue, eval_psum, List.map_map, Function.comp_def, eval_pmul, eval_valueTermP]

theorem eval_makespanTermP (b : Bits) (ovs : List (List OpVar)) (limit : Nat) :
    evalPoly b (makespanTermP ovs limit) = makespanTerm ovs limit b := by
  simp only [makespanTermP, makespanTerm, eval_psum, List.map_map, Function.comp_def]
  refine congrArg List.sum (List.map_congr_left fun row _ => ?_)
  cases row.getLast? with
  | none => rfl
  | some x => simp only [eval_psum, List.map_map, Function.comp_def, eval_pscale, eval_valueTermP]

theorem eval_earlyStartTermP (b : Bits) (ovs : List (List OpVar)) :
    evalPoly b (earlyStartTermP ovs) = earlyStartTerm ovs b := by
  simp only [earlyStartTermP, earlyStartTerm, eval_psum, List.map_map, Function.comp_def, apply_ite (evalPoly b), evalPoly_nil,
    eval_pscale, eval_valueTermP]

theorem eval_energyPolyOf (pen : Penalties) (inst : EInst) (vars : List (List Var)) (limit : Nat) (b : Bits) :
    evalPoly b (energyPolyOf pen inst vars limit) = energyOf pen inst vars limit b := by
  simp only [energyPolyOf, energyOf, eval_padd, eval_pscale, eval_psum, List.map_map, Function.comp_def, eval_makespanTermP,
    eval_earlyStartTermP, eval_pairTermP, eval_viabilityP]
  grind

end QVerif.Encoder
