import QVerif.Model.Solver
import QVerif.Lemmas.Lists

/-! Invariants of the solver loop (C05, C12). -/

namespace QVerif.Solver

/-- `result_callback`'s update of the running best, as a fold over the history -/
def upd (acc : Option (Nat × Rat)) (e : Nat × Rat) : Option (Nat × Rat) :=
  match acc with
  | none => some e
  | some (b0, v0) => if e.2 < v0 then some e else some (b0, v0)

theorem upd_cases (acc : Option (Nat × Rat)) (e : Nat × Rat) :
    (upd acc e = some e ∧ ∀ a, acc = some a → e.2 < a.2) ∨ (upd acc e = acc ∧ ∃ a, acc = some a ∧ a.2 ≤ e.2) := by
  unfold upd
  cases acc with
  | none => exact Or.inl ⟨rfl, nofun⟩
  | some a =>
    by_cases h : e.2 < a.2
    · exact Or.inl ⟨if_pos h, fun _ ha => Option.some.inj ha ▸ h⟩
    · exact Or.inr ⟨if_neg h, a, rfl, Rat.not_lt.mp h⟩

def countsOf (evs : List Ev) : Nat := (evs.map (fun e => match e with | .count n => n | _ => 0)).sum
def resultsOf (evs : List Ev) : Nat := (evs.filter (fun e => match e with | .result _ _ _ => true | _ => false)).length

/-- what the two callbacks maintain -/
structure SInv (s : St) : Prop where
  gen : s.nGen = s.hist.length
  best : s.best = s.hist.foldl upd none
  len : s.ledger.length ≤ s.nGen + 1

theorem sinv_init : SInv {} := ⟨rfl, rfl, by simp⟩

theorem onCount_frame (s : St) (n : Nat) (h : s.ledger.length ≤ s.nGen + 1) :
    (onCount s n).ledger.sum = s.ledger.sum + n ∧ (onCount s n).ledger.length ≤ s.nGen + 1 ∧
    (onCount s n).nGen = s.nGen ∧ (onCount s n).hist = s.hist ∧ (onCount s n).best = s.best := by
  unfold onCount
  split
  · simp; omega
  · rename_i hlt
    have hi : s.nGen < s.ledger.length := by omega
    refine ⟨?_, by simp; omega, rfl, rfl, rfl⟩
    simp only
    have := sum_set s.ledger hi (s.ledger.getD s.nGen 0 + n)
    rw [List.getD_eq_getElem?_getD, List.getElem?_eq_getElem hi, Option.getD_some] at this ⊢
    omega

theorem sinv_event (cfg : Cfg) (s : St) (e : Ev) (h : SInv s) : SInv (onEvent cfg s e) := by
  cases e with
  | count n =>
    obtain ⟨_, h2, h3, h4, h5⟩ := onCount_frame s n h.len
    simp only [onEvent]
    exact ⟨by rw [h3, h4]; exact h.gen, by rw [h5, h4]; exact h.best, by rw [h3]; exact h2⟩
  | result b v c =>
    simp only [onEvent, onResult]
    refine ⟨by simp [h.gen], ?_, by simp; have := h.len; omega⟩
    simp only [List.foldl_append, List.foldl_cons, List.foldl_nil, ← h.best]
    cases s.best with
    | none => rfl
    | some p => obtain ⟨b0, v0⟩ := p; rfl

theorem sinv_events (cfg : Cfg) : ∀ (evs : List Ev) (s : St), SInv s → SInv (evs.foldl (onEvent cfg) s)
  | [], _, h => h
  | e :: t, s, h => sinv_events cfg t _ (sinv_event cfg s e h)

theorem events_sum (cfg : Cfg) : ∀ (evs : List Ev) (s : St), SInv s →
    (evs.foldl (onEvent cfg) s).ledger.sum = s.ledger.sum + countsOf evs ∧
    (evs.foldl (onEvent cfg) s).nGen = s.nGen + resultsOf evs
  | [], s, _ => by simp [countsOf, resultsOf]
  | e :: t, s, h => by
      have ih := events_sum cfg t (onEvent cfg s e) (sinv_event cfg s e h)
      simp only [List.foldl_cons]
      rw [ih.1, ih.2]
      cases e with
      | count n =>
        obtain ⟨h1, _, h3, _⟩ := onCount_frame s n h.len
        simp only [onEvent, countsOf, resultsOf, List.map_cons, List.sum_cons, List.filter_cons] at *
        rw [h1, h3]; simp; omega
      | result b v c =>
        simp only [onEvent, onResult, countsOf, resultsOf, List.map_cons, List.sum_cons, List.filter_cons]
        simp; omega

abbrev after (cfg : Cfg) (s : St) (steps : List Step) : St := (steps.flatMap (·.events)).foldl (onEvent cfg) s

theorem after_take_succ (cfg : Cfg) (s : St) (script : List Step) (i : Nat) (h : i < script.length) :
    after cfg s (script.take (i + 1)) = (script[i]).events.foldl (onEvent cfg) (after cfg s (script.take i)) := by
  rw [after, List.take_succ_eq_append_getElem h, List.flatMap_append, List.foldl_append]
  simp

theorem sinv_after (cfg : Cfg) (steps : List Step) : SInv (after cfg {} steps) := sinv_events cfg _ _ sinv_init

theorem countsOf_flatMap (steps : List Step) :
    countsOf (steps.flatMap (·.events)) = (steps.map (fun st => countsOf st.events)).sum := by
  induction steps with
  | nil => rfl
  | cons a t ih => simp only [List.flatMap_cons, List.map_cons, List.sum_cons, ← ih]; simp [countsOf]

/-- The loop as an induction principle. `stop`: nothing is started and the state comes back as it is (flag already set,
or script exhausted) or with the flag raised (a limit is reached). `go`: the first application is started, flag unset and
below every limit, and the loop goes on from the state after it. -/
theorem runLoop_ind (cfg : Cfg) {motive : St → List Step → St × List St × Bool → Prop}
    (stop : ∀ s script sF ex, (sF = s ∧ (s.terminate = true ∨ ex = true)) ∨
      (sF = { s with terminate := true } ∧ limitReached cfg s (script.head?.bind (·.est)) = true) →
      motive s script (sF, [], ex))
    (go : ∀ s step rest r, s.terminate = false → limitReached cfg s step.est = false →
      motive (step.events.foldl (onEvent cfg) s) rest r → motive s (step :: rest) (r.1, s :: r.2.1, r.2.2))
    (s : St) (script : List Step) : motive s script (runLoop cfg s script) := by
  -- `case1` … `case6` are the cases of `runLoop.induct`, in the order of the branches of `runLoop`
  fun_induction runLoop cfg s script with
  | case1 _ ht | case4 _ _ _ ht => exact stop _ _ _ _ (Or.inl ⟨rfl, Or.inl ht⟩)
  | case3 => exact stop _ _ _ _ (Or.inl ⟨rfl, Or.inr rfl⟩)
  | case2 _ _ hl | case5 _ _ _ _ hl => exact stop _ _ _ _ (Or.inr ⟨rfl, hl⟩)
  | case6 s step rest ht hl s' sF started ex hrec ih =>
    rw [hrec] at ih
    exact go s step rest _ (by simpa using ht) (by simpa using hl) ih

/-- the loop in closed form: in which states it started an application (`starts`: the state after the applications before, flag unset,
below the limits), where it ended (`final`), and why it stopped (`stop`) -/
structure RunSpec (cfg : Cfg) (s : St) (script : List Step) (sF : St) (started : List St) (ex : Bool) : Prop where
  len : started.length ≤ script.length
  starts : ∀ i (h1 : i < started.length) (h2 : i < script.length),
    started[i] = after cfg s (script.take i) ∧ (started[i]).terminate = false ∧
    limitReached cfg started[i] (script[i]).est = false
  final : ∃ t, sF = { after cfg s (script.take started.length) with terminate := t }
  stop : (after cfg s (script.take started.length)).terminate = true ∨ ex = true ∨
    limitReached cfg (after cfg s (script.take started.length)) (script[started.length]?.bind (·.est)) = true

theorem runLoop_spec {cfg : Cfg} {s : St} {script : List Step} : ∀ {sF : St} {started : List St} {ex : Bool},
    runLoop cfg s script = (sF, started, ex) → RunSpec cfg s script sF started ex := by
  induction s, script using runLoop_ind cfg with
  | stop s script sF ex h =>
    intro sF' st' ex' e
    cases e
    -- nothing was started; where it ended and why, by the three ways to stop
    suffices h' : (∃ t, sF = { after cfg s (script.take 0) with terminate := t }) ∧
        ((after cfg s (script.take 0)).terminate = true ∨ ex = true ∨
          limitReached cfg (after cfg s (script.take 0)) (script[0]?.bind (·.est)) = true) from
      ⟨Nat.zero_le _, fun i hi => absurd hi (Nat.not_lt_zero i), h'.1, h'.2⟩
    rcases h with ⟨rfl, h | h⟩ | ⟨rfl, h⟩
    · exact ⟨⟨sF.terminate, rfl⟩, Or.inl h⟩
    · exact ⟨⟨sF.terminate, rfl⟩, Or.inr (Or.inl h)⟩
    · exact ⟨⟨true, rfl⟩, Or.inr (Or.inr (List.head?_eq_getElem? ▸ h))⟩
  | go s step rest r ht hl ih =>
    intro sF' st' ex' e
    cases e
    have ih := ih (Prod.ext rfl (Prod.ext rfl rfl))   -- r = (r.1, r.2.1, r.2.2)
    refine { len := by simpa using ih.len, starts := fun i hi hi' => ?_, final := by simpa [after] using ih.final,
             stop := by simpa [after] using ih.stop }
    cases i with
    | zero => simp [after, ht, hl]
    | succ j => simpa [after] using ih.starts j (by simpa using hi) (by simpa using hi')

theorem limitReached_false {cfg : Cfg} {s : St} {est : Option Nat} (h : limitReached cfg s est = false) :
    (∀ m, cfg.maxEvals = some m → total s < m ∧ ∀ e, est = some e → total s + (e : Int) < m) ∧
    (∀ g, cfg.maxGen = some g → s.nGen < g) := by
  unfold limitReached at h
  simp only [Bool.or_eq_false_iff] at h
  obtain ⟨⟨h1, h2⟩, h3⟩ := h
  refine ⟨fun m hm => ⟨?_, fun e he => ?_⟩, fun g hg => ?_⟩
  · simp only [hm, decide_eq_false_iff_not] at h1; omega
  · simp only [hm, he, decide_eq_false_iff_not] at h2; omega
  · simp only [hg, decide_eq_false_iff_not] at h3; omega

theorem solve_run {cfg : Cfg} {script : List Step} {o : Outcome} {started : List St}
    (h : solve cfg script = (o, started)) : ∃ sF ex, runLoop cfg {} script = (sF, started, ex) := by
  unfold solve at h
  rcases hrun : runLoop cfg {} script with ⟨sF, st, ex⟩
  rw [hrun] at h
  dsimp only at h
  refine ⟨sF, ex, ?_⟩
  split at h
  · rw [(Prod.mk.inj h).2]
  · split at h
    · rw [(Prod.mk.inj h).2]
    · split at h <;> rw [(Prod.mk.inj h).2]

theorem solve_ok {cfg : Cfg} {script : List Step} {r : Result} {started : List St}
    (h : solve cfg script = (.ok r, started)) :
    ∃ sF b v, runLoop cfg {} script = (sF, started, false) ∧ sF.best = some (b, v) ∧ sF.hist ≠ [] ∧
      r = { eigenvalue := v, bestIndividual := b, circuitEvaluations := sF.ledger, generations := sF.nGen,
            history := sF.hist, measured := b } := by
  unfold solve at h
  rcases hrun : runLoop cfg {} script with ⟨sF, st, ex⟩
  rw [hrun] at h
  dsimp only at h
  cases ex with
  | true => rw [if_pos rfl] at h; cases h
  | false =>
    rw [if_neg Bool.false_ne_true] at h
    cases hb : sF.best with
    | none => rw [hb] at h; cases h
    | some p =>
      obtain ⟨b, v⟩ := p
      rw [hb] at h
      dsimp only at h
      split at h
      · cases h
      · rename_i hne
        cases h
        exact ⟨sF, b, v, rfl, hb, by simpa using hne, rfl⟩

theorem solveF_started (cfg : Cfg) (script : List Step) (faultAt : Option Nat) :
    ∃ n, (solveF cfg script faultAt).2 = (solve cfg (script.take n)).2 := by
  unfold solveF
  cases faultAt with
  | none => exact ⟨script.length, by rw [List.take_length]⟩
  | some k =>
    dsimp only
    split
    · exact ⟨k + 1, rfl⟩
    · exact ⟨script.length, by rw [List.take_length]⟩

end QVerif.Solver
