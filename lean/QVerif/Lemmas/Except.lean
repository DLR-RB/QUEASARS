/-! Python's `if c: raise e` in front of a computation, read as an `Except` value: a chain of such guards succeeds
    exactly when no guard fires and the rest succeeds. Used by the lemmas about the validating constructors (Genome, Jssp). -/
namespace QVerif

theorem guard_eq_ok {ε α} {c : Prop} [Decidable c] {e : ε} {m : Except ε α} {a : α} :
    (if c then .error e else m) = .ok a ↔ ¬ c ∧ m = .ok a := by
  by_cases h : c <;> simp [h]

theorem guard_eq_error {ε α} {c : Prop} [Decidable c] {e e' : ε} {m : Except ε α} :
    (if c then .error e else m) = .error e' → e' = e ∨ m = .error e' := by
  by_cases h : c
  · rw [if_pos h]; exact fun h' => .inl (Except.error.inj h').symm
  · rw [if_neg h]; exact .inr

theorem ok_or_raise_eq_ok {ε α} {c : Prop} [Decidable c] {e : ε} {a a' : α} :
    (if c then .ok a else .error e : Except ε α) = .ok a' ↔ c ∧ a = a' := by
  by_cases h : c <;> simp [h]

end QVerif
