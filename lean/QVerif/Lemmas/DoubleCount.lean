/-! Double counting of term/slot incidences (C01): the number of term ends that land in a set of slots is at most the
sum over the slots of the per-slot counts. Generic, core Lean only. -/

namespace QVerif.DoubleCount

variable {σ : Type} [DecidableEq σ]

def cnt (units : List (σ × σ)) (n : σ) : Nat :=
  (units.filter (fun u => decide (u.1 = n))).length + (units.filter (fun u => decide (u.2 = n))).length

def ind (b : Bool) : Nat := if b then 1 else 0

theorem ind_le_of_imp {p : Prop} [Decidable p] {b : Bool} (h : p → b = true) : ind (decide p) ≤ ind b := by
  unfold ind
  by_cases hp : p
  · simp [hp, h hp]
  · simp [hp]

def sumN {α : Type} (f : α → Nat) : List α → Nat
  | [] => 0
  | x :: xs => f x + sumN f xs

theorem sumN_eq_sum_map {α : Type} (f : α → Nat) (l : List α) : sumN f l = (l.map f).sum := by
  induction l with
  | nil => rfl
  | cons a t ih => simp [sumN, ih]

theorem ind_mem_le_sumN (N : List σ) (x : σ) : ind (decide (x ∈ N)) ≤ sumN (fun n => ind (decide (x = n))) N := by
  induction N with
  | nil => exact Nat.le_refl 0
  | cons a t ih =>
    by_cases hxa : x = a
    · have : ind (decide (x = a)) = 1 := by simp [ind, hxa]
      have : ind (decide (x ∈ a :: t)) ≤ 1 := by unfold ind; split <;> omega
      simp only [sumN]; omega
    · rw [show decide (x ∈ a :: t) = decide (x ∈ t) by simp [hxa]]
      exact Nat.le_trans ih (Nat.le_add_left _ _)

theorem sumN_add {α : Type} (f g : α → Nat) (l : List α) : sumN (fun x => f x + g x) l = sumN f l + sumN g l := by
  induction l with
  | nil => rfl
  | cons a t ih => simp only [sumN, ih]; omega

theorem sumN_le {α : Type} (f g : α → Nat) (l : List α) (h : ∀ x ∈ l, f x ≤ g x) : sumN f l ≤ sumN g l := by
  induction l with
  | nil => exact Nat.le_refl _
  | cons a t ih =>
    simp only [sumN]
    have := h a (by simp)
    have := ih (fun x hx => h x (List.mem_cons_of_mem _ hx))
    omega

theorem sumN_append {α : Type} (f : α → Nat) (a b : List α) : sumN f (a ++ b) = sumN f a + sumN f b := by
  simp only [sumN_eq_sum_map, List.map_append, List.sum_append_nat]

theorem sumN_map {α β : Type} (f : β → Nat) (g : α → β) (l : List α) : sumN f (l.map g) = sumN (fun x => f (g x)) l := by
  simp only [sumN_eq_sum_map, List.map_map, Function.comp_def]

theorem sumN_flatMap {α β : Type} (f : β → Nat) (g : α → List β) : ∀ (l : List α),
    sumN f (l.flatMap g) = sumN (fun x => sumN f (g x)) l
  | [] => rfl
  | a :: t => by simp only [List.flatMap_cons, sumN_append, sumN, sumN_flatMap f g t]

theorem sumN_const_le {β : Type} (f : β → Nat) (c : Nat) : ∀ (l : List β), (∀ b ∈ l, f b ≤ c) → sumN f l ≤ l.length * c
  | [], _ => by simp [sumN]
  | a :: t, h => by
      have := sumN_const_le f c t (fun b hb => h b (List.mem_cons_of_mem _ hb))
      have := h a (by simp)
      simp only [sumN, List.length_cons, Nat.add_mul]; omega

def incid (N : List σ) (u : σ × σ) : Nat := ind (decide (u.1 ∈ N)) + ind (decide (u.2 ∈ N))

theorem cnt_cons (u : σ × σ) (U : List (σ × σ)) (n : σ) :
    cnt (u :: U) n = ind (decide (u.1 = n)) + ind (decide (u.2 = n)) + cnt U n := by
  simp only [cnt, ← List.countP_eq_length_filter, List.countP_cons, ind]; omega

/-- a slot listed twice in `N` is counted twice on the right -/
theorem incidences_le_cnt (units : List (σ × σ)) (N : List σ) : sumN (incid N) units ≤ sumN (cnt units) N := by
  induction units with
  | nil => exact Nat.zero_le _
  | cons u U ih =>
    have h1 := ind_mem_le_sumN N u.1
    have h2 := ind_mem_le_sumN N u.2
    rw [show cnt (u :: U) = fun n => ind (decide (u.1 = n)) + ind (decide (u.2 = n)) + cnt U n from funext (cnt_cons u U),
      sumN_add, sumN_add]
    show incid N u + sumN (incid N) U ≤ _
    have : incid N u = ind (decide (u.1 ∈ N)) + ind (decide (u.2 ∈ N)) := rfl
    omega

theorem incidences_le (units : List (σ × σ)) (N : List σ) (hN : N.Nodup) (M : σ → Nat)
    (hM : ∀ n ∈ N, cnt units n ≤ M n) :
    sumN (incid N) units ≤ sumN M N :=
  Nat.le_trans (incidences_le_cnt units N) (sumN_le _ _ N hM)

end QVerif.DoubleCount
