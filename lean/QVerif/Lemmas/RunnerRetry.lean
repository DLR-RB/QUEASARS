import QVerif.Lemmas.RunnerFrame
namespace Runner

/-! ### A measure that no step increases: only the two timed retry loops can make an execution long

`rank` (RunnerProg) decreases along a completion *strategy*.  Here the locations of the entry retry loop
(`a0 a1 a7 a8 a9`: try-lock failed → release → timed wait → try again) and of the executor's drain loop
(`g0 g1 g2 g3`: timed wait → re-notify → check again) get one rank each, so that EVERY step — under any scheduler —
either strictly decreases `(callsLeft, phi2)` (the `ν` of DESIGN §3; lemma prefix `nu_`) or is an iteration step of one of those two
loops that leaves it unchanged or lower.  Nothing in this file needs an invariant: a step is an update of one thread (`Upd`), so in a sum over the threads
the summand of the acting thread moves and the others do not grow, and the ranks are compared in an arbitrary state in which that thread sits at its new
location — the successor state is never unfolded. -/

def sumUpTo (f : Nat → Nat) : Nat → Nat
  | 0 => 0
  | n + 1 => sumUpTo f n + f n

theorem sumUpTo_le {f g : Nat → Nat} {n : Nat} (h : ∀ u, u < n → f u ≤ g u) : sumUpTo f n ≤ sumUpTo g n := by
  induction n with
  | zero => exact Nat.le_refl _
  | succ k ih =>
    have := ih fun u hu => h u (by omega)
    have := h k (by omega)
    simp only [sumUpTo]; omega

theorem sumUpTo_bump (f : Nat → Nat) (t c : Nat) : ∀ n,
    sumUpTo (fun u => f u + if u = t then c else 0) n = sumUpTo f n + if t < n then c else 0
  | 0 => rfl
  | n + 1 => by
    simp only [sumUpTo, sumUpTo_bump f t c n]
    rcases Nat.lt_trichotomy t n with h | h | h
    · rw [if_pos h, if_neg (by omega), if_pos (by omega)]; omega
    · rw [if_neg (by omega), if_pos h.symm, if_pos (by omega)]; omega
    · rw [if_neg (by omega), if_neg (by omega), if_neg (by omega)]; omega

theorem sumUpTo_lt {f g : Nat → Nat} {n t : Nat} (ht : t < n) (hlt : f t < g t)
    (h : ∀ u, u < n → u ≠ t → f u ≤ g u) : sumUpTo f n < sumUpTo g n := by
  have := sumUpTo_le (f := fun u => f u + if u = t then 1 else 0) (g := g) (n := n) fun u hu => by
    split
    · next e => rw [e]; exact hlt
    · next e => exact h u hu e
  rw [sumUpTo_bump, if_pos ht] at this
  exact this

theorem sumUpTo_lt_comp {f g : Nat → Nat} {n t w c : Nat} (ht : t < n) (hw : w < n)
    (h1 : f t ≤ g t + c) (h2 : f w + c + 1 ≤ g w)
    (h : ∀ u, u < n → u ≠ t → u ≠ w → f u ≤ g u) : sumUpTo f n < sumUpTo g n := by
  have := sumUpTo_le (f := fun u => f u + if u = w then c + 1 else 0) (g := fun u => g u + if u = t then c else 0)
    (n := n) fun u hu => by
      split <;> split
      · next ew _ => subst ew; omega
      · next ew _ => subst ew; omega
      · next _ et => subst et; omega
      · next ew et => have := h u hu et ew; omega
  rw [sumUpTo_bump, sumUpTo_bump, if_pos ht, if_pos hw] at this
  omega

theorem sumUpTo_bound (f : Nat → Nat) (c : Nat) (h : ∀ u, f u ≤ c) : ∀ n, sumUpTo f n ≤ c * n
  | 0 => by simp [sumUpTo]
  | n + 1 => by
      have := sumUpTo_bound f c h n
      have := h n
      simp only [sumUpTo, Nat.mul_succ]
      omega

theorem ite_le_ite {p q : Prop} [Decidable p] [Decidable q] {a b : Nat} (h : p → q) (hab : b ≤ a) :
    (if p then a else b) ≤ (if q then a else b) := by
  by_cases hp : p
  · rw [if_pos hp, if_pos (h hp)]; exact Nat.le_refl _
  · rw [if_neg hp]; split
    · exact hab
    · exact Nat.le_refl _

section
variable {s s' : St} {t u : Nat} {x' : TS}

theorem Upd.sum_lt (h : Upd s s' t x') (W : St → Nat → Nat) (hown : W s' t < W s t)
    (hoth : ∀ u, u ≠ t → W s' u ≤ W s u) : sumUpTo (W s') s'.th.length < sumUpTo (W s) s.th.length := by
  rw [h.len]; exact sumUpTo_lt h.lt hown fun u _ => hoth u

theorem Upd.sum_le (h : Upd s s' t x') (W : St → Nat → Nat) (hall : ∀ u, W s' u ≤ W s u) :
    sumUpTo (W s') s'.th.length ≤ sumUpTo (W s) s.th.length := by
  rw [h.len]; exact sumUpTo_le fun u _ => hall u

def callW (x : TS) : Nat := x.todo.length + (if x.loc = .idle then 0 else 1)
def callsLeft (s : St) : Nat := sumUpTo (fun u => callW (s.get u)) s.th.length

theorem callW_eq {x y : TS} (ht : y.todo = x.todo) (hx : x.loc ≠ .idle) (hy : y.loc ≠ .idle) : callW y = callW x := by
  rw [callW, callW, ht, if_neg hx, if_neg hy]

theorem ne_idle {x : TS} {l : Loc} (h : x.loc = l) (hl : l ≠ .idle) : x.loc ≠ .idle := h ▸ hl

theorem Upd.callsLeft_eq (h : Upd s s' t x') (hc : callW x' = callW (s.get t)) : callsLeft s' = callsLeft s := by
  have e : (fun u => callW (s'.get u)) = fun u => callW (s.get u) := funext fun u => by
    by_cases hu : u = t
    · rw [hu, h.get_self, hc]
    · rw [h.get_ne hu]
  rw [callsLeft, callsLeft, h.len, e]

theorem Upd.callsLeft_lt (h : Upd s s' t x') (hc : callW x' < callW (s.get t)) : callsLeft s' < callsLeft s :=
  h.sum_lt (fun s u => callW (s.get u)) (h.get_self ▸ hc) fun u hu => Nat.le_of_eq (by rw [h.get_ne hu])

def Loc.retry : Loc → Bool
  | .a0 | .a1 | .a7 | .a8 | .a9 | .g0 | .g1 | .g2 | .g3 => true
  | _ => false

def rank2 (s : St) (u : Nat) : Nat :=
  match (s.get u).loc with
  | .idle => if (s.get u).todo.isEmpty then 0 else 60
  | .a0 => 58 | .a1 => 58 | .a7 => 58 | .a8 => 58 | .a9 => 58
  | .a2 => 57 | .a3 => 56 | .a4 => 55 | .b0 => 54 | .b1 => 53
  | .b2 => 52 | .b3 => 51 | .b4 => 50
  | .c0 => 52 | .c1 => 51
  | .c2 => if u ∈ s.icw then 50 else 41
  | .d0 => 40 | .d1 => 39 | .d2 => 38
  | .g0 => 36 | .g1 => 36 | .g2 => 36 | .g3 => 36
  | .g4 => 20 | .g5 => 19 | .g6 => 18 | .g7 => 17
  | .r => 1

def phi2 (s : St) : Nat := sumUpTo (rank2 s) s.th.length

def muLt2 (s' s : St) : Prop := callsLeft s' < callsLeft s ∨ (callsLeft s' = callsLeft s ∧ phi2 s' < phi2 s)

/-- the measure does not go up and some thread sits in a retry loop before and after (not necessarily the acting one: that is `RetryShape`) -/
def RetryStep (s s' : St) : Prop :=
  callsLeft s' = callsLeft s ∧ phi2 s' ≤ phi2 s ∧ ∃ t, (s.get t).loc.retry = true ∧ (s'.get t).loc.retry = true

theorem Upd.rank2_oth (h : Upd s s' t x') (hs : Step s s') (hu : u ≠ t) : rank2 s' u ≤ rank2 s u := by
  unfold rank2; rw [h.get_ne hu]
  cases (s.get u).loc
  case c2 => exact ite_le_ite (hs.icw_mono (h.get_ne hu)) (by decide)
  all_goals exact Nat.le_refl _

theorem Upd.nu_lt (h : Upd s s' t x') (hs : Step s s') (hc : callW x' = callW (s.get t))
    (hown : ∀ x : St, (x.get t).loc = x'.loc → rank2 x t < rank2 s t) : muLt2 s' s :=
  .inr ⟨h.callsLeft_eq hc, h.sum_lt rank2 (hown _ (by rw [h.get_self])) fun _ => h.rank2_oth hs⟩

/-- the eleven retry-loop steps of thread `t`, with the state they lead to -/
inductive RetryShape (s : St) (t : Nat) : St → Prop
  | a0 (hloc : (s.get t).loc = .a0) (hg : s.E = none) : RetryShape s t ({ s with E := some t }.at t .a1)
  | a1fail (hloc : (s.get t).loc = .a1) (hg : s.V ≠ none) : RetryShape s t (s.at t .a7)
  | a7 (hloc : (s.get t).loc = .a7) (hg : True) : RetryShape s t ({ s with E := none }.at t .a8)
  | a8 (hloc : (s.get t).loc = .a8) (hg : True) : RetryShape s t ({ s with ecw := s.ecw ++ [t] }.at t .a9)
  | a9 (hloc : (s.get t).loc = .a9) (hg : t ∉ s.ecw) : RetryShape s t (s.at t .a0)
  | a9timeout (hloc : (s.get t).loc = .a9) (hg : t ∈ s.ecw) : RetryShape s t ({ s with ecw := s.ecw.erase t }.at t .a0)
  | g0wait (hloc : (s.get t).loc = .g0) (hg : s.tc > 0) : RetryShape s t (s.at t .g1)
  | g1 (hloc : (s.get t).loc = .g1) (hg : True) : RetryShape s t ({ s with icw := s.icw ++ [t] }.at t .g2)
  | g2 (hloc : (s.get t).loc = .g2) (hg : t ∉ s.icw) : RetryShape s t (s.at t .g3)
  | g2timeout (hloc : (s.get t).loc = .g2) (hg : t ∈ s.icw) : RetryShape s t ({ s with icw := s.icw.erase t }.at t .g3)
  | g3 (hloc : (s.get t).loc = .g3) (hg : True) : RetryShape s t ({ s with icw := s.icw.tail }.at t .g0)

structure RetryUpd (s s' : St) (t : Nat) (x' : TS) : Prop where
  upd : Upd s s' t x'
  src : (s.get t).loc.retry = true
  dst : x'.loc.retry = true
  V : s'.V = s.V
  tc : s'.tc = s.tc
  todo : x'.todo = (s.get t).todo
  rank : ∀ x : St, (x.get t).loc = x'.loc → rank2 x t = rank2 s t

theorem RetryShape.upd (hlt : t < s.th.length) (h : RetryShape s t s') : ∃ x', RetryUpd s s' t x' := by
  cases h <;> rename_i hloc hg
  all_goals exact ⟨_, { upd := ⟨hlt, rfl⟩, src := by rw [hloc]; rfl, dst := rfl, V := rfl, tc := rfl, todo := rfl,
                        rank := fun x hx => by simp only [rank2, hx, hloc] }⟩

theorem RetryShape.shape (hlt : t < s.th.length) (hs : Step s s') (h : RetryShape s t s') :
    muLt2 s' s ∨ (RetryStep s s' ∧ ∃ t, t < s.th.length ∧ RetryShape s t s') := by
  -- always the right disjunct; stated with the conclusion of `nu_of_step_shape`, whose eleven retry cases it closes
  obtain ⟨x', r⟩ := h.upd hlt
  have hu := r.upd
  have hc : callW x' = callW (s.get t) :=
    callW_eq r.todo (fun e => by have := r.src; rw [e] at this; cases this) (fun e => by have := r.dst; rw [e] at this; cases this)
  refine .inr ⟨⟨hu.callsLeft_eq hc, hu.sum_le rank2 fun u => ?_, t, r.src, by rw [hu.get_self]; exact r.dst⟩, t, hlt, h⟩
  by_cases e : u = t
  · rw [e]; exact Nat.le_of_eq (r.rank _ (by rw [hu.get_self]))
  · exact hu.rank2_oth hs e

end

theorem nu_of_step_shape {s s' : St} (hs : Step s s') :
    muLt2 s' s ∨ (RetryStep s s' ∧ ∃ t, t < s.th.length ∧ RetryShape s t s') := by
  have hstep := hs
  cases hs <;> rename_i t hlt hloc hg
  -- the steps of the two retry loops are the constructors of `RetryShape` of the same name
  case a0 | a1fail | a7 | a8 | a9 | a9timeout | g0wait | g1 | g2 | g2timeout | g3 =>
    exact RetryShape.shape hlt hstep (by constructor <;> assumption)
  case ret => exact .inl (.inl (Upd.callsLeft_lt ⟨hlt, rfl⟩ (by simp [callW, hloc])))
  case start =>
    obtain ⟨c, l, htd⟩ := List.exists_cons_of_ne_nil hg
    refine .inl (Upd.nu_lt ⟨hlt, rfl⟩ hstep (by simp [callW, hloc, htd]) fun x hx => ?_)
    simp [rank2, hx, hloc, htd]
  all_goals refine .inl (Upd.nu_lt ⟨hlt, rfl⟩ hstep (callW_eq rfl (ne_idle hloc (by decide)) nofun) fun x hx => ?_)
  -- the table has an `if` at c2
  case c1 | c2 => simp only [rank2, hx, hloc]; split <;> decide
  -- every other step moves its thread one location down the table
  all_goals simp only [rank2, hx, hloc]; decide

theorem nu_of_step {s s' : St} (hs : Step s s') : muLt2 s' s ∨ RetryStep s s' :=
  (nu_of_step_shape hs).imp_right And.left

theorem rank2_le (s : St) (u : Nat) : rank2 s u ≤ 60 := by
  unfold rank2
  cases (s.get u).loc <;> simp only
  case idle | c2 => split <;> omega
  all_goals omega

theorem phi2_le (s : St) : phi2 s ≤ 60 * s.th.length := sumUpTo_bound _ 60 (rank2_le s) _

/-- the measure as one number: each unfinished call weighs more than all ranks together -/
def weight (s : St) : Nat := callsLeft s * (60 * s.th.length + 1) + phi2 s

theorem weight_lt {s s' : St} (hs : Step s s') (h : muLt2 s' s) : weight s' < weight s := by
  unfold weight
  rw [hs.len]
  rcases h with h | ⟨h1, h2⟩
  · have hb := phi2_le s'
    rw [hs.len] at hb
    have : (callsLeft s' + 1) * (60 * s.th.length + 1) ≤ callsLeft s * (60 * s.th.length + 1) :=
      Nat.mul_le_mul_right _ h
    rw [Nat.add_mul] at this
    omega
  · rw [h1]; omega

theorem weight_le {s s' : St} (hs : Step s s') (h : RetryStep s s') : weight s' ≤ weight s := by
  unfold weight
  rw [hs.len, h.1]
  have := h.2.1
  omega

inductive Run : St → St → Prop
  | refl (s : St) : Run s s
  | cons {s s1 s' : St} (a : Act) : step s a = some s1 → Run s1 s' → Run s s'

/-- an execution with `k` steps that lower the measure; `RetryStep`s in between are not counted -/
inductive Path : St → St → Nat → Prop
  | refl (s : St) : Path s s 0
  | work {s s1 s' : St} {k : Nat} : Step s s1 → muLt2 s1 s → Path s1 s' k → Path s s' (k + 1)
  | retry {s s1 s' : St} {k : Nat} : Step s s1 → RetryStep s s1 → Path s1 s' k → Path s s' k

theorem path_of_run {s s' : St} (h : Run s s') : ∃ k, Path s s' k := by
  induction h with
  | refl s => exact ⟨0, .refl s⟩
  | cons a ha _ ih =>
    obtain ⟨k, hk⟩ := ih
    have hs := step_sound _ _ a ha
    rcases nu_of_step hs with h | h
    · exact ⟨k + 1, .work hs h hk⟩
    · exact ⟨k, .retry hs h hk⟩

theorem path_bound {s s' : St} {k : Nat} (h : Path s s' k) : k + weight s' ≤ weight s := by
  induction h with
  | refl s => simp
  | work hs hlt _ ih => have := weight_lt hs hlt; omega
  | retry hs hr _ ih => have := weight_le hs hr; omega

/-! ### Strong fairness: from some point on, only retry-loop steps, and no other thread is ever enabled

Thread `t` *acts* in a step iff its program location changes (every step of the runner moves exactly one thread to another
location).  An infinite execution is strongly fair if every thread that is enabled infinitely often acts infinitely often. -/

def StepBy (t : Nat) (s s' : St) : Prop := Step s s' ∧ (s'.get t).loc ≠ (s.get t).loc
def EnabledT (t : Nat) (s : St) : Prop := ∃ s', StepBy t s s'

def IsExec (σ : Nat → St) : Prop := ∀ i, Step (σ i) (σ (i + 1))
def StrongFair (σ : Nat → St) : Prop :=
  ∀ t, (∀ i, ∃ j, i ≤ j ∧ EnabledT t (σ j)) → ∀ i, ∃ j, i ≤ j ∧ StepBy t (σ j) (σ (j + 1))

theorem Ready.enabled {s : St} {t : Nat} (h : Ready s t) : EnabledT t s :=
  let ⟨s', _, hs, hu, hne⟩ := h.acts; ⟨s', hs, by rw [hu.get_self]; exact hne⟩

theorem eventually_const : ∀ (b : Nat) (w : Nat → Nat), (∀ i, w (i + 1) ≤ w i) → w 0 = b →
    ∃ N, ∀ i, N ≤ i → w (i + 1) = w i := by
  intro b
  induction b using Nat.strongRecOn with
  | _ b ih =>
    intro w h hb
    by_cases hd : ∃ i, w (i + 1) < w i
    · -- after a drop the sequence starts lower: induction
      obtain ⟨i0, hi0⟩ := hd
      have mono : ∀ i, w i ≤ w 0 := fun i => by
        induction i with
        | zero => exact Nat.le_refl _
        | succ i ih => exact Nat.le_trans (h i) ih
      obtain ⟨N, hN⟩ := ih _ (hb ▸ Nat.lt_of_lt_of_le hi0 (mono i0)) (fun k => w (i0 + 1 + k)) (fun k => h (i0 + 1 + k)) rfl
      refine ⟨i0 + 1 + N, fun i hi => ?_⟩
      have := hN (i - (i0 + 1)) (by omega)
      rwa [show i0 + 1 + (i - (i0 + 1) + 1) = i + 1 by omega, show i0 + 1 + (i - (i0 + 1)) = i by omega] at this
    · exact ⟨0, fun i _ => Nat.le_antisymm (h i) (Nat.le_of_not_lt fun hlt => hd ⟨i, hlt⟩)⟩

theorem exec_len {σ : Nat → St} (hex : IsExec σ) : ∀ i, (σ i).th.length = (σ 0).th.length
  | 0 => rfl
  | i + 1 => by rw [(hex i).len, exec_len hex i]

def Tail (σ : Nat → St) (N : Nat) : Prop := ∀ i, N ≤ i → ∃ t, t < (σ i).th.length ∧ RetryShape (σ i) t (σ (i + 1))

theorem tail_of_exec {σ : Nat → St} (hex : IsExec σ) : ∃ N, Tail σ N := by
  -- the weight never goes up, so from some `N` on it is constant: no step decreases the measure any more
  obtain ⟨N, hN⟩ := eventually_const _ (fun i => weight (σ i))
    (fun i => (nu_of_step (hex i)).elim (fun h => Nat.le_of_lt (weight_lt (hex i) h)) (weight_le (hex i))) rfl
  refine ⟨N, fun i hi => (nu_of_step_shape (hex i)).elim (fun h => ?_) And.right⟩
  exact absurd (hN i hi ▸ weight_lt (hex i) h) (Nat.lt_irrefl _)

theorem Tail.step {σ : Nat → St} {N i : Nat} (ht : Tail σ N) (hi : N ≤ i) (u : Nat) :
    ((σ (i + 1)).get u).loc.retry = ((σ i).get u).loc.retry ∧
    (((σ i).get u).loc.retry = false → (σ (i + 1)).get u = (σ i).get u) := by
  obtain ⟨t, hlt, hsh⟩ := ht i hi
  obtain ⟨_, r⟩ := hsh.upd hlt
  by_cases e : u = t
  · subst e; rw [r.upd.get_self, r.src, r.dst]; exact ⟨rfl, nofun⟩
  · rw [r.upd.get_ne e]; exact ⟨rfl, fun _ => rfl⟩

theorem Tail.steps {σ : Nat → St} {N : Nat} (ht : Tail σ N) (u : Nat) : ∀ k,
    ((σ (N + k)).get u).loc.retry = ((σ N).get u).loc.retry ∧
    (((σ N).get u).loc.retry = false → (σ (N + k)).get u = (σ N).get u)
  | 0 => ⟨rfl, fun _ => rfl⟩
  | k + 1 =>
    have ⟨h1, h2⟩ := ht.steps u k
    have ⟨s1, s2⟩ := ht.step (Nat.le_add_right N k) u
    ⟨s1.trans h1, fun hu => (s2 (h1 ▸ hu)).trans (h2 hu)⟩

theorem fair_never_enabled {σ : Nat → St} {N u : Nat} (ht : Tail σ N) (hf : StrongFair σ)
    (hu : ((σ N).get u).loc.retry = false) : ∃ m, ∀ j, m ≤ j → ¬ EnabledT u (σ j) := by
  apply Classical.byContradiction; intro hcon
  have hinf : ∀ i, ∃ j, i ≤ j ∧ EnabledT u (σ j) := fun i =>
    Classical.byContradiction fun h => hcon ⟨i, fun j hj he => h ⟨j, hj, he⟩⟩
  -- enabled again and again, `u` would act in the tail, where it is frozen
  obtain ⟨j, hj, _, hne⟩ := hf u hinf N
  have ⟨h1, h2⟩ := ht.steps u (j - N)
  rw [Nat.add_sub_cancel' hj] at h1 h2
  exact hne (by rw [(ht.step hj u).2 (h1 ▸ hu)])

theorem uniform_bound (P : Nat → Nat → Prop) : ∀ n, (∀ t, t < n → ∃ m, ∀ j, m ≤ j → P t j) →
    ∃ M, ∀ t, t < n → ∀ j, M ≤ j → P t j
  | 0, _ => ⟨0, fun t ht => absurd ht (Nat.not_lt_zero t)⟩
  | n + 1, h => by
      obtain ⟨M, hM⟩ := uniform_bound P n (fun t ht => h t (by omega))
      obtain ⟨m, hm⟩ := h n (by omega)
      refine ⟨max M m, fun t ht j hj => ?_⟩
      by_cases e : t = n
      · subst e; exact hm j (by omega)
      · exact hM t (by omega) j (by omega)

theorem quiet_tail {σ : Nat → St} (hex : IsExec σ) (hf : StrongFair σ) :
    ∃ M, Tail σ M ∧ ∀ j, M ≤ j → ∀ u, u < (σ j).th.length → ((σ j).get u).loc.retry = false → ¬ EnabledT u (σ j) := by
  obtain ⟨N, ht⟩ := tail_of_exec hex
  -- in the tail a thread's retry class is frozen (`Tail.steps`), so "outside the loops at `j`" is "outside them at `N`", where
  -- `fair_never_enabled` gives a bound per thread; `uniform_bound` takes the largest over the threads
  obtain ⟨M, hM⟩ := uniform_bound (fun u j => ((σ N).get u).loc.retry = false → ¬ EnabledT u (σ j)) (σ 0).th.length
    (fun u _ => by
      by_cases hu : ((σ N).get u).loc.retry = false
      · obtain ⟨m, hm⟩ := fair_never_enabled ht hf hu
        exact ⟨m, fun j hj _ => hm j hj⟩
      · exact ⟨0, fun j _ h => absurd h hu⟩)
  refine ⟨max N M, fun i hi => ht i (by omega), ?_⟩
  intro j hj u hu hnr
  rw [exec_len hex j] at hu
  have h1 := (ht.steps u (j - N)).1
  rw [Nat.add_sub_cancel' (by omega), hnr] at h1
  exact hM u hu j (by omega) h1.symm

end Runner
