import QVerif.Model.Encoder

/-! Decoding of windows and the structure of a prepared encoding (C15, C01, C02): the variables tile the qubits, every
operation's variable has `limit − total + 1` values starting at the summed duration of its predecessors, and the windows of
tiled variables determine and are determined by the bitstring. -/

namespace QVerif.Encoder

def wallWindow (n k : Nat) : Bits := List.replicate k true ++ List.replicate (n - k) false

theorem wallWindow_succ (n k : Nat) : wallWindow (n + 1) (k + 1) = true :: wallWindow n k := by
  unfold wallWindow; simp [List.replicate_succ]

theorem wallWindow_length {n k : Nat} (hk : k ≤ n) : (wallWindow n k).length = n := by
  unfold wallWindow; simp only [List.length_append, List.length_replicate]; omega

theorem decodeWindow_wall (n k : Nat) (hk : k ≤ n) : decodeWindow (wallWindow n k) = some k := by
  induction k generalizing n with
  | zero =>
    unfold wallWindow
    cases n with
    | zero => rfl
    | succ m => simp [List.replicate_succ, decodeWindow]
  | succ j ih =>
    cases n with
    | zero => omega
    | succ m =>
      rw [wallWindow_succ]
      simp only [decodeWindow, ih m (by omega), Option.map_some]

theorem decodeWindow_some (w : Bits) (k : Nat) (h : decodeWindow w = some k) :
    k ≤ w.length ∧ w = wallWindow w.length k := by
  induction w generalizing k with
  | nil => simp only [decodeWindow, Option.some.injEq] at h; subst h; simp [wallWindow]
  | cons b t ih =>
    cases b with
    | true =>
      simp only [decodeWindow, Option.map_eq_some_iff] at h
      obtain ⟨j, hj, rfl⟩ := h
      obtain ⟨h1, h2⟩ := ih j hj
      refine ⟨by simp; omega, ?_⟩
      rw [List.length_cons, wallWindow_succ, ← h2]
    | false =>
      simp only [decodeWindow] at h
      split at h
      · cases h
      · rename_i hany
        cases h
        have ht : t = List.replicate t.length false := List.eq_replicate_iff.mpr ⟨rfl, fun x hx => by
          cases x with
          | false => rfl
          | true => exact absurd (List.any_eq_true.mpr ⟨true, hx, rfl⟩) hany⟩
        refine ⟨Nat.zero_le _, ?_⟩
        rw [wallWindow, List.replicate_zero, List.nil_append, Nat.sub_zero, List.length_cons, List.replicate_succ, ← ht]

theorem decodeWindow_eq_some_iff (w : Bits) (k : Nat) :
    decodeWindow w = some k ↔ k ≤ w.length ∧ w = wallWindow w.length k := by
  constructor
  · exact decodeWindow_some w k
  · rintro ⟨h1, h2⟩; rw [h2]; exact decodeWindow_wall _ _ h1

theorem decodeVar_eq_some_iff {v : Var} {bits : Bits} {s : Nat} :
    decodeVar v bits = some s ↔ ∃ k, decodeWindow (window v bits) = some k ∧ k + v.lo = s := Option.map_eq_some_iff

theorem decodeVar_eq_none_iff {v : Var} {bits : Bits} :
    decodeVar v bits = none ↔ decodeWindow (window v bits) = none := Option.map_eq_none_iff

theorem window_length_le (v : Var) (bits : Bits) : (window v bits).length ≤ v.nq := by
  unfold window; rw [List.length_take]; exact Nat.min_le_left _ _

theorem decodeVar_of_window {v : Var} {bits : Bits} {k : Nat} (hk : k ≤ v.nq) (hw : window v bits = wallWindow v.nq k) :
    decodeVar v bits = some (v.lo + k) := by
  unfold decodeVar
  rw [hw, decodeWindow_wall _ _ hk, Option.map_some, Nat.add_comm]

def Tiled : Nat → List Var → Prop
  | _, [] => True
  | q, v :: t => v.qstart = q ∧ Tiled (q + v.nq) t

def totalNq (vs : List Var) : Nat := (vs.map Var.nq).sum

theorem tiled_append {q : Nat} {a b : List Var} (ha : Tiled q a) (hb : Tiled (q + totalNq a) b) : Tiled q (a ++ b) := by
  induction a generalizing q with
  | nil => simpa [totalNq] using hb
  | cons v t ih =>
    obtain ⟨h1, h2⟩ := ha
    refine ⟨h1, ih h2 ?_⟩
    simpa [totalNq, Nat.add_assoc] using hb

theorem jobVars_spec (limit total : Nat) : ∀ (ops : List EOp) (q head : Nat),
    (jobVars limit total ops q head).length = ops.length ∧
    Tiled q (jobVars limit total ops q head) ∧
    totalNq (jobVars limit total ops q head) = ops.length * (limit - total) ∧
    ∀ v ∈ jobVars limit total ops q head, v.nvals = limit - total + 1
  | [], q, head => by simp [jobVars, Tiled, totalNq]
  | o :: rest, q, head => by
      obtain ⟨h1, h2, h3, h4⟩ := jobVars_spec limit total rest (q + (limit - total + 1 - 1)) (head + o.dur)
      refine ⟨?_, ?_, ?_, ?_⟩
      · simp only [jobVars, List.length_cons, h1]
      · simp only [jobVars]
        exact ⟨rfl, by simpa [Var.nq] using h2⟩
      · simp only [jobVars, totalNq, List.map_cons, List.sum_cons, Var.nq, List.length_cons] at h3 ⊢
        rw [h3, Nat.add_mul]; omega
      · intro v hv
        simp only [jobVars, List.mem_cons] at hv
        rcases hv with rfl | hv
        · rfl
        · exact h4 v hv

theorem jobVars_lo (limit total : Nat) : ∀ (ops : List EOp) (q head i : Nat) (hi : i < (jobVars limit total ops q head).length),
    ((jobVars limit total ops q head)[i]).lo = head + ((ops.take i).map EOp.dur).sum
  | o :: rest, q, head, 0, _ => by simp [jobVars]
  | o :: rest, q, head, i + 1, hi => by
      simp only [jobVars, List.getElem_cons_succ, List.take_succ_cons, List.map_cons, List.sum_cons]
      rw [jobVars_lo limit total rest _ _ i (by simpa [jobVars] using hi)]
      omega

/-- what `_prepare_encoding` returns when the first free qubit is `q` -/
structure Prepared (limit : Nat) (inst : EInst) (q : Nat) (vars : List (List Var)) : Prop where
  le : ∀ j ∈ inst, jobTotal j ≤ limit
  tiled : Tiled q vars.flatten
  nq : totalNq vars.flatten = (inst.map (fun j => j.length * (limit - jobTotal j))).sum
  len : vars.length = inst.length
  rows : ∀ p ∈ inst.zip vars, ∃ q', p.2 = jobVars limit (jobTotal p.1) p.1 q' 0

theorem prepareFrom_spec (limit : Nat) : ∀ (inst : EInst) (q : Nat) (vars : List (List Var)),
    prepareFrom limit inst q = .ok vars → Prepared limit inst q vars
  | [], q, vars, h => by
      simp only [prepareFrom] at h; cases h
      exact ⟨by simp, trivial, rfl, rfl, by simp⟩
  | j :: js, q, vars, h => by
      simp only [prepareFrom] at h
      split at h
      · cases h
      · rename_i hle
        split at h
        · cases h
        · rename_i rest hrest
          cases h
          have ih := prepareFrom_spec limit js _ rest hrest
          have hle' : jobTotal j ≤ limit := by omega
          obtain ⟨_, jtiled, jnq, _⟩ := jobVars_spec limit (jobTotal j) j q 0
          refine { le := fun j' hj' => ?le, tiled := ?tiled, nq := ?nq,
                   len := by rw [List.length_cons, List.length_cons, ih.len], rows := fun p hp => ?rows }
          case le =>
            rcases List.mem_cons.mp hj' with rfl | hj'
            · exact hle'
            · exact ih.le j' hj'
          case tiled =>
            simp only [List.flatten_cons]
            apply tiled_append jtiled
            rw [jnq]; exact ih.tiled
          case nq =>
            have h3 := ih.nq
            simp only [List.flatten_cons, totalNq, List.map_append, List.sum_append, List.map_cons, List.sum_cons] at jnq h3 ⊢
            rw [jnq, h3]
          case rows =>
            rw [List.zip_cons_cons, List.mem_cons] at hp
            rcases hp with rfl | hp
            · exact ⟨q, rfl⟩
            · exact ih.rows p hp

theorem prepare_tiled {inst : EInst} {limit : Nat} {vars : List (List Var)} (h : prepare inst limit = .ok vars) :
    Tiled 0 vars.flatten := (prepareFrom_spec limit inst 0 vars h).tiled

theorem prepareFrom_error (limit : Nat) : ∀ (inst : EInst) (q : Nat) (e : Err),
    prepareFrom limit inst q = .error e → e = .limitTooShort ∧ ∃ j ∈ inst, limit < jobTotal j
  | j :: js, q, e, h => by
      simp only [prepareFrom] at h
      split at h
      · rename_i hgt; cases h; exact ⟨rfl, j, by simp, hgt⟩
      · split at h
        · rename_i e' he'
          cases h
          obtain ⟨h1, j', hj', hlt⟩ := prepareFrom_error limit js _ _ he'
          exact ⟨h1, j', List.mem_cons_of_mem _ hj', hlt⟩
        · cases h

theorem windows_flatten (bits : Bits) : ∀ (vs : List Var) (q : Nat), Tiled q vs →
    (vs.map (fun v => window v bits)).flatten = (bits.drop q).take (totalNq vs)
  | [], q, _ => by simp [totalNq]
  | v :: t, q, ⟨h1, h2⟩ => by
      simp only [List.map_cons, List.flatten_cons, totalNq, List.sum_cons]
      rw [windows_flatten bits t _ h2]
      unfold window
      rw [h1, List.take_add, List.drop_drop]
      rfl

theorem bits_eq_of_windows (vs : List Var) (b1 b2 : Bits) (ht : Tiled 0 vs)
    (h1 : b1.length = totalNq vs) (h2 : b2.length = totalNq vs)
    (hw : ∀ v ∈ vs, window v b1 = window v b2) : b1 = b2 := by
  have e1 := windows_flatten b1 vs 0 ht
  have e2 := windows_flatten b2 vs 0 ht
  have : vs.map (fun v => window v b1) = vs.map (fun v => window v b2) := List.map_congr_left hw
  rw [this, e2] at e1
  simp only [List.drop_zero] at e1
  rw [← h1, List.take_length] at e1
  rw [h1, ← h2, List.take_length] at e1
  exact e1.symm

/-- the concatenation of the chosen walls decodes to the choice, whatever precedes it -/
theorem exists_suffix_decoding : ∀ (vs : List Var) (choice : List Nat) (q : Nat), Tiled q vs → vs.length = choice.length →
    (∀ p ∈ vs.zip choice, p.2 ≤ p.1.nq) →
    ∃ suf : Bits, suf.length = totalNq vs ∧
      ∀ pre : Bits, pre.length = q → ∀ p ∈ vs.zip choice, decodeVar p.1 (pre ++ suf) = some (p.1.lo + p.2)
  | [], _, _, _, _, _ => ⟨[], rfl, fun _ _ p hp => by simp at hp⟩
  | v :: vs, k :: ks, q, ⟨hq, ht⟩, hl, hc => by
      have hk : k ≤ v.nq := hc (v, k) (by simp)
      obtain ⟨suf, hsl, hsuf⟩ := exists_suffix_decoding vs ks (q + v.nq) ht (by simpa using hl)
        (fun p hp => hc p (by simp [hp]))
      refine ⟨wallWindow v.nq k ++ suf, ?_, fun pre hpre p hp => ?_⟩
      · simp only [List.length_append, wallWindow_length hk, hsl, totalNq, List.map_cons, List.sum_cons]
      · rw [List.zip_cons_cons, List.mem_cons] at hp
        rcases hp with rfl | hp
        · apply decodeVar_of_window hk
          unfold window
          rw [hq, ← hpre, List.drop_left', List.take_left' (wallWindow_length hk)]
          rfl
        · -- the others see the wall as part of what precedes them
          rw [← List.append_assoc]
          exact hsuf (pre ++ wallWindow v.nq k) (by simp [hpre, wallWindow_length hk]) p hp

theorem tiled_range : ∀ (vs : List Var) (q : Nat), Tiled q vs → ∀ v ∈ vs, q ≤ v.qstart ∧ v.qstart + v.nq ≤ q + totalNq vs
  | w :: t, q, ht, v, hv => by
      obtain ⟨h1, h2⟩ := ht
      simp only [totalNq, List.map_cons, List.sum_cons]
      rcases List.mem_cons.mp hv with rfl | hv
      · omega
      · have := tiled_range t (q + w.nq) h2 v hv
        simp only [totalNq] at this
        omega

theorem window_length {v : Var} {bits : Bits} (h : v.qstart + v.nq ≤ bits.length) : (window v bits).length = v.nq := by
  unfold window; simp only [List.length_take, List.length_drop]; omega

theorem prepare_var_range {inst : EInst} {limit : Nat} {vars : List (List Var)} (h : prepare inst limit = .ok vars) :
    ∀ v ∈ vars.flatten, v.qstart + v.nq ≤ nQubits vars := fun v hv => by
  simpa [nQubits, totalNq] using (tiled_range vars.flatten 0 (prepare_tiled h) v hv).2

theorem prepare_window_length {inst : EInst} {limit : Nat} {vars : List (List Var)} (h : prepare inst limit = .ok vars)
    {bits : Bits} (hlen : bits.length = nQubits vars) : ∀ v ∈ vars.flatten, (window v bits).length = v.nq :=
  fun v hv => window_length (hlen ▸ prepare_var_range h v hv)

/-- `fits`: the latest start leaves room for the operation itself -/
structure OpVarOk (limit : Nat) (vars : List (List Var)) (x : OpVar) : Prop where
  mem : x.var ∈ vars.flatten
  nvals : x.var.nvals = x.var.nq + 1
  fits : x.var.lo + x.var.nq + x.op.dur ≤ limit

theorem jobVars_fits (limit total : Nat) (hle : total ≤ limit) : ∀ (ops : List EOp) (q head : Nat),
    head + (ops.map EOp.dur).sum ≤ total →
    ∀ p ∈ ops.zip (jobVars limit total ops q head), p.2.lo + p.2.nq + p.1.dur ≤ limit ∧ p.2.nvals = p.2.nq + 1
  | o :: rest, q, head, hsum, p, hp => by
      simp only [jobVars, List.zip_cons_cons, List.mem_cons] at hp
      simp only [List.map_cons, List.sum_cons] at hsum
      rcases hp with rfl | hp
      · simp only [Var.nq]
        constructor <;> omega
      · exact jobVars_fits limit total hle rest _ _ (by omega) p hp

theorem opVars_ok (inst : EInst) (limit : Nat) (vars : List (List Var)) (h : prepare inst limit = .ok vars) :
    ∀ x ∈ (opVars inst vars).flatten, OpVarOk limit vars x := by
  have hp := prepareFrom_spec limit inst 0 vars h
  intro x hx
  simp only [opVars, List.mem_flatten, List.mem_map] at hx
  obtain ⟨row, ⟨⟨⟨j, vs⟩, ji⟩, hjv, rfl⟩, hxr⟩ := hx
  simp only [List.mem_map] at hxr
  obtain ⟨⟨⟨o, v⟩, oi⟩, hov, rfl⟩ := hxr
  have hjv' : (j, vs) ∈ inst.zip vars := List.mem_of_getElem? (List.mem_zipIdx_iff_getElem?.mp hjv)
  have hov' : (o, v) ∈ j.zip vs := List.mem_of_getElem? (List.mem_zipIdx_iff_getElem?.mp hov)
  obtain ⟨q', hq'⟩ := hp.rows (j, vs) hjv'
  obtain ⟨hfits, hnvals⟩ := jobVars_fits limit (jobTotal j) (hp.le j (List.of_mem_zip hjv').1) j q' 0
    (by unfold jobTotal; omega) (o, v) (by rw [← hq']; exact hov')
  exact ⟨List.mem_flatten.mpr ⟨vs, (List.of_mem_zip hjv').2, (List.of_mem_zip hov').2⟩, hnvals, hfits⟩

end QVerif.Encoder
