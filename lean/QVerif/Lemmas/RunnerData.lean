import QVerif.Lemmas.RunnerInv
namespace Runner

def sliceOk (batch pubs : List Nat) (idx : Nat) : Prop := (batch.drop idx).take pubs.length = pubs

theorem sliceOk_append {b p : List Nat} {i : Nat} (q : List Nat) (h : sliceOk b p i) : sliceOk (b ++ q) p i := by
  unfold sliceOk at *
  by_cases hi : i ≤ b.length
  · rw [List.drop_append_of_le_length hi]
    have hl : p.length ≤ (b.drop i).length := by
      have := congrArg List.length h
      simp only [List.length_take, List.length_drop] at this ⊢
      omega
    rw [List.take_append_of_le_length hl, h]
  · have : b.drop i = [] := List.drop_eq_nil_of_le (by omega)
    rw [this] at h
    simp at h
    subst h
    simp

theorem sliceOk_end (b p : List Nat) : sliceOk (b ++ p) p b.length := by
  unfold sliceOk
  simp

def Loc.inBatch : Loc → Bool
  | .a2 | .a3 | .a4 | .b0 | .b1 | .b2 | .b3 | .b4 | .c0 | .c1 | .c2 | .d0 | .d1 | .d2 | .g0 | .g1 | .g2 | .g3 | .g4 => true
  | _ => false
def Loc.hasRes : Loc → Bool
  | .d1 | .d2 | .r | .g0 | .g1 | .g2 | .g3 | .g4 | .g5 | .g6 | .g7 => true
  | _ => false
/-- threads whose pubs are laid out in the current `batch` -/
def TS.inBatch (x : TS) : Bool := x.loc.inBatch
/-- threads that hold a gathered outcome -/
def TS.hasRes (x : TS) : Bool := x.loc.hasRes
@[simp] theorem inBatch_mk (l p i e r t o) : TS.inBatch ⟨l, p, i, e, r, t, o⟩ = l.inBatch := rfl
@[simp] theorem hasRes_mk (l p i e r t o) : TS.hasRes ⟨l, p, i, e, r, t, o⟩ = l.hasRes := rfl
theorem inBatch_of_loc {x : TS} {l : Loc} (h : x.loc = l) : x.inBatch = l.inBatch := by simp [TS.inBatch, h]
theorem hasRes_of_loc {x : TS} {l : Loc} (h : x.loc = l) : x.hasRes = l.hasRes := by simp [TS.hasRes, h]

structure DInv (s : St) : Prop where
  blenEq : s.blen = s.batch.length
  layout : ∀ t, (s.get t).inBatch = true → sliceOk s.batch (s.get t).pubs (s.get t).idx
  logged : s.outcomeSet = true → (s.batch, gather s) ∈ s.flog
  gathered : ∀ t, (s.get t).hasRes = true →
      ∃ b o, (b, o) ∈ s.flog ∧ (s.get t).loc_res = some o ∧ sliceOk b (s.get t).pubs (s.get t).idx
  emptyLate : ∀ t, (s.get t).loc = .g5 ∨ (s.get t).loc = .g6 → s.batch = []
  emptyOpen : (∀ t, (s.get t).inExec = false) → s.tc = 0 → s.batch = []

theorem dinv_init (th : List TS) (h : ∀ x ∈ th, x.loc = .idle) : DInv { th := th } := by
  have hg := get_init th h
  constructor
  · rfl
  · intro t ht; rw [inBatch_of_loc (hg t)] at ht; simp [Loc.inBatch] at ht
  · intro ho; simp [St.outcomeSet] at ho
  · intro t ht; rw [hasRes_of_loc (hg t)] at ht; simp [Loc.hasRes] at ht
  · intro t ht; simp [hg t] at ht
  · intro _ _; rfl

section dpres
variable {s s' : St}

theorem dpres_blen (hd : DInv s) (hs : Step s s') : s'.blen = s'.batch.length := by
  have h0 := hd.blenEq
  cases hs
  case a1ok => simp [St.set, h0]
  case g4 => rfl
  all_goals exact h0

theorem inBatch_cases {x : TS} (h : x.inBatch = true) : x.isMember = true ∨ x.holdsV = true ∨ x.inExec = true := by
  obtain ⟨l, _, _, _, _, _, _⟩ := x
  cases l <;> simp_all [Loc.inBatch, Loc.member, Loc.vHold, Loc.execOnly]

theorem dpres_layout (hc : CInv s) (hd : DInv s) (hs : Step s s') :
    ∀ u, (s'.get u).inBatch = true → sliceOk s'.batch (s'.get u).pubs (s'.get u).idx := by
  have fr := fun {t x'} (hu : Upd s s' t x') => hu.forall (P := fun _ y => y.inBatch = true → sliceOk s'.batch y.pubs y.idx)
  cases hs <;> rename_i t hlt hloc hg
  case a1ok =>
    exact fr ⟨hlt, rfl⟩ (fun _ => hd.blenEq ▸ sliceOk_end _ _) (fun u _ hh => sliceOk_append _ (hd.layout u hh))
  -- the batch is emptied by the executor holding V with tc = 0: no other thread is laid out in it
  case g4 =>
    have htc := hc.lateTc t (.inl hloc)
    refine fr ⟨hlt, rfl⟩ (fun hh => nomatch hh) (fun u hut hh => ?_)
    exfalso
    rcases inBatch_cases hh with h2 | h2 | h2
    · have := member_pos hc u h2; omega
    · rw [(lock_free hc.lockV).mp hg u] at h2; cases h2
    · exact hut (hc.oneExec u t h2 (late_inExec (.inl hloc)))
  all_goals refine fr ⟨hlt, rfl⟩ ?_ (fun u _ => hd.layout u)
  -- a thread outside the batch stays outside
  case start | a0 | a1fail | a7 | a8 | a9 | a9timeout | d2plain | g5 | g6 | g7 | ret => simp [Loc.inBatch, St.at, St.set]
  -- the others keep their place in an unchanged batch
  all_goals simpa [get_with, inBatch_of_loc hloc, Loc.inBatch, St.at, St.set] using hd.layout t

theorem dpres_logged (hc : CInv s) (hd : DInv s) (hs : Step s s') :
    s'.outcomeSet = true → (s'.batch, gather s') ∈ s'.flog := by
  cases hs <;> rename_i t hlt hloc hg
  -- the batch grows only while no outcome is set
  case a1ok =>
    have := (hc.openPh (no_exec_of_a1 hc t hloc hg)).1
    exact fun ho => nomatch this.symm.trans ho
  case b3ok | b3fail => exact fun _ => List.mem_append_right _ (List.mem_singleton.mpr rfl)
  case g4 => exact fun ho => nomatch ho
  all_goals exact hd.logged

theorem dpres_gathered (hc : CInv s) (hd : DInv s) (hs : Step s s') :
    ∀ u, (s'.get u).hasRes = true →
      ∃ b o, (b, o) ∈ s'.flog ∧ (s'.get u).loc_res = some o ∧ sliceOk b (s'.get u).pubs (s'.get u).idx := by
  have fr := fun {t x'} (hu : Upd s s' t x') => hu.forall
    (P := fun _ y => y.hasRes = true → ∃ b o, (b, o) ∈ s'.flog ∧ y.loc_res = some o ∧ sliceOk b y.pubs y.idx)
  cases hs <;> rename_i t hlt hloc hg
  -- gathering copies the logged outcome of the batch this thread is laid out in
  case d0 =>
    exact fr ⟨hlt, rfl⟩
      (fun _ => ⟨s.batch, gather s, hd.logged (hc.gathOutcome t (by rw [hloc]; rfl)), rfl,
        hd.layout t (by rw [inBatch_of_loc hloc]; rfl)⟩)
      (fun u _ => hd.gathered u)
  case start | a1ok => exact fr ⟨hlt, rfl⟩ (fun hh => nomatch hh) (fun u _ => hd.gathered u)
  case b3ok | b3fail =>
    exact fr ⟨hlt, rfl⟩ (fun hh => nomatch hh)
      (fun u _ hh => let ⟨b, o, hm, hr⟩ := hd.gathered u hh; ⟨b, o, List.mem_append_left _ hm, hr⟩)
  all_goals
    refine fr ⟨hlt, rfl⟩ (fun hh => hd.gathered t ?_) (fun u _ => hd.gathered u)
    simp [hasRes_of_loc hloc, Loc.hasRes] at hh ⊢

theorem dpres_emptyLate (hc : CInv s) (hd : DInv s) (hs : Step s s') :
    ∀ u, (s'.get u).loc = .g5 ∨ (s'.get u).loc = .g6 → s'.batch = [] := by
  have fr := fun {t x'} (hu : Upd s s' t x') => hu.forall (P := fun _ y => y.loc = .g5 ∨ y.loc = .g6 → s'.batch = [])
  cases hs <;> rename_i t hlt hloc hg
  case a1ok =>
    exact fr ⟨hlt, rfl⟩ (by simp)
      (fun u _ hh => by have := no_exec_of_a1 hc t hloc hg u; rw [late_inExec (.inr hh)] at this; cases this)
  case g4 => exact fun _ _ => rfl
  case g5 => exact fr ⟨hlt, rfl⟩ (fun _ => hd.emptyLate t (.inl hloc)) (fun u _ => hd.emptyLate u)
  all_goals exact fr ⟨hlt, rfl⟩ nofun (fun u _ => hd.emptyLate u)

theorem dpres_emptyOpen (hc : CInv s) (hd : DInv s) (hs : Step s s') :
    (∀ u, (s'.get u).inExec = false) → s'.tc = 0 → s'.batch = [] := by
  cases hs <;> rename_i t hlt hloc hg
  case a1ok => exact fun _ htc => nomatch htc
  -- no thread gathers while there is no executor (`pres_openPh`)
  case d0 =>
    have ho := hc.gathOutcome t (by rw [hloc]; rfl)
    refine open_upd ⟨hlt, rfl⟩ (fun hopen => (hc.openPh hopen).1)
      (fun hx' => by simpa [inExec_of_loc hloc, Loc.execOnly, Loc.gath] using hx') (fun hno => ?_)
    rw [ho] at hno; cases hno
  case g6 => exact fun _ _ => hd.emptyLate t (.inr hloc)
  case b1exec | b3ok | b3fail | g4 => exact open_vacuous ⟨hlt, rfl⟩ rfl
  all_goals refine open_upd ⟨hlt, rfl⟩ hd.emptyOpen (fun hx' => ?_) id
  case b4 | c2 | d2exec | d2plain =>
    have hx := hc.execFlag t
    simp_all [get_with, inExec_of_loc hloc, Loc.execOnly, Loc.gath]
  case d1 => simpa [get_with, inExec_of_loc hloc, Loc.execOnly, Loc.gath] using hx'
  all_goals simp [get_with, inExec_of_loc hloc, Loc.execOnly, Loc.gath] at hx' ⊢

theorem dinv_step (hc : CInv s) (hd : DInv s) (hs : Step s s') : DInv s' where
  blenEq := dpres_blen hd hs
  layout := dpres_layout hc hd hs
  logged := dpres_logged hc hd hs
  gathered := dpres_gathered hc hd hs
  emptyLate := dpres_emptyLate hc hd hs
  emptyOpen := dpres_emptyOpen hc hd hs

end dpres

theorem dinv_reachable (th0 : List TS) (h0 : ∀ x ∈ th0, x.loc = .idle) {s : St} (hr : Reachable th0 s) :
    CInv s ∧ DInv s := by
  induction hr with
  | init => exact ⟨cinv_init th0 h0, dinv_init th0 h0⟩
  | next a _ hstep ih => exact ⟨cinv_step ih.1 (step_sound _ _ a hstep), dinv_step ih.1 ih.2 (step_sound _ _ a hstep)⟩

theorem Reachable.invariant {th0 : List TS} (h0 : ∀ x ∈ th0, x.loc = .idle) {P : St → Prop} (hi : P { th := th0 })
    (hs : ∀ {s s'}, CInv s → DInv s → P s → Step s s' → P s') {s : St} (hr : Reachable th0 s) : P s := by
  induction hr with
  | init => exact hi
  | next a hprev hstep ih =>
    obtain ⟨hc, hd⟩ := dinv_reachable th0 h0 hprev
    exact hs hc hd ih (step_sound _ _ a hstep)

/-- C06 / C09 (`Props/C06.lean`, `Props/C09.lean`). Which logged call is not determined: for a call without pubs every log entry qualifies. -/
theorem returned_is_own (th0 : List TS) (h0 : ∀ x ∈ th0, x.loc = .idle) {s : St} (hr : Reachable th0 s)
    (t : Nat) (ht : (s.get t).loc = .r) :
    ∃ b o, (b, o) ∈ s.flog ∧ (s.get t).loc_res = some o ∧ sliceOk b (s.get t).pubs (s.get t).idx :=
  (dinv_reachable th0 h0 hr).2.gathered t (by rw [hasRes_of_loc ht]; rfl)

/-- a successful outcome is logged as `ok batch`: the model takes results to be positional (result `i` belongs to pub `i`) -/
theorem log_entries_positional (th0 : List TS) (h0 : ∀ x ∈ th0, x.loc = .idle) {s : St} (hr : Reachable th0 s) :
    ∀ b o, (b, o) ∈ s.flog → o = .ok b ∨ ∃ e, o = .exc e := by
  refine hr.invariant h0 (P := fun s => ∀ b o, (b, o) ∈ s.flog → o = .ok b ∨ ∃ e, o = .exc e)
    (fun b o h => nomatch h) fun _ _ ih hs b o hm => ?_
  cases hs
  case b3ok | b3fail =>
    rcases List.mem_append.mp hm with h1 | h1
    · exact ih b o h1
    · cases List.mem_singleton.mp h1; simp
  all_goals exact ih b o hm

/-- C09 (reset) -/
theorem quiescent_reset (th0 : List TS) (h0 : ∀ x ∈ th0, x.loc = .idle) {s : St} (hr : Reachable th0 s)
    (hq : ∀ t, (s.get t).loc = .idle) :
    s.E = none ∧ s.V = none ∧ s.icw = [] ∧ s.ecw = [] ∧ s.tc = 0 ∧ s.ec = 0 ∧ s.g = 0 ∧ s.blen = 0 ∧ s.batch = [] ∧
    s.result = none ∧ s.exn = none := by
  obtain ⟨hc, hd⟩ := dinv_reachable th0 h0 hr
  have hopen : ∀ t, (s.get t).inExec = false := by
    intro t; rw [inExec_of_loc (hq t)]; simp [Loc.execOnly, Loc.gath]
  obtain ⟨ho, hg0, har⟩ := hc.openPh hopen
  have htc : s.tc = 0 := hc.tcCount.trans (countP_eq_zero_of_get s _ fun u => by rw [isMember_of_loc (hq u)]; rfl)
  have hE : s.E = none := (lock_free hc.lockE).mpr fun u => by rw [holdsE_of_loc (hq u)]; simp [Loc.eHold, Loc.gath]
  have hV : s.V = none := (lock_free hc.lockV).mpr fun u => by rw [holdsV_of_loc (hq u)]; rfl
  have hi : s.icw = [] := List.eq_nil_iff_forall_not_mem.mpr fun u hu => by have := hc.icwLoc u hu; simp [hq u] at this
  have he : s.ecw = [] := List.eq_nil_iff_forall_not_mem.mpr fun u hu => by have := hc.ecwLoc u hu; simp [hq u] at this
  have hb := hd.emptyOpen hopen htc
  have hbl := hd.blenEq
  simp only [St.outcomeSet, Bool.or_eq_false_iff, Option.isSome_eq_false_iff, Option.isNone_iff_eq_none] at ho
  refine ⟨hE, hV, hi, he, htc, ?_, hg0, ?_, hb, ho.1, ho.2⟩
  · omega
  · rw [hbl, hb]; rfl

end Runner
