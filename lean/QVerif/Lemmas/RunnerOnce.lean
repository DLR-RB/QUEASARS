import QVerif.Lemmas.RunnerData
import QVerif.Lemmas.Lists

/-!
# Every submitted pub is handed to `f` exactly once (C06, last clause)

Conservation law over all reachable states: as multisets,

    pubs handed to `f` so far (all logged batches)
  + the batch being collected, if it has not been executed yet
  + the pubs of calls that have started but not yet appended themselves to the batch
  + the pubs of the calls still to be made
  = all pubs of all calls.

At the end of an execution everything but the first summand is empty.
-/

namespace Runner

/-- locations of a started call before its pubs are appended to the batch -/
def Loc.preAppend : Loc → Bool
  | .a0 | .a1 | .a7 | .a8 | .a9 => true
  | _ => false

def TS.pending (x : TS) : List Nat := (if x.loc.preAppend then x.pubs else []) ++ x.todo.flatten

def St.openBatch (s : St) : List Nat := if s.outcomeSet then [] else s.batch

def St.handed (s : St) : List Nat := s.flog.flatMap (·.1)

def St.account (s : St) : List Nat := s.handed ++ s.openBatch ++ s.th.flatMap TS.pending

theorem flatMap_set {α β} (l : List α) (t : Nat) (y : α) (f : α → List β) (ht : t < l.length) :
    (l.set t y).flatMap f = (l.take t).flatMap f ++ (f y ++ (l.drop (t + 1)).flatMap f) := by
  rw [List.set_eq_take_append_cons_drop, if_pos ht, List.flatMap_append, List.flatMap_cons]

theorem flatMap_cut {α β} (l : List α) (t : Nat) (f : α → List β) (ht : t < l.length) :
    l.flatMap f = (l.take t).flatMap f ++ (f l[t] ++ (l.drop (t + 1)).flatMap f) := by
  rw [← flatMap_set l t l[t] f ht, List.set_getElem_self]

theorem pending_eq {x y : TS} (hp : y.pubs = x.pubs) (ht : y.todo = x.todo) (hl : y.loc.preAppend = x.loc.preAppend) :
    y.pending = x.pending := by
  rw [TS.pending, TS.pending, hp, ht, hl]

section
variable {s s' : St}

theorem account_upd_perm {t : Nat} {x' : TS} {p : List Nat} (h : Upd s s' t x') (hp : (s.get t).pending = p ++ x'.pending)
    (hb : s'.handed ++ s'.openBatch = s.handed ++ s.openBatch ++ p) : s.account.Perm s'.account := by
  rw [St.account, St.account, h.th, flatMap_cut _ t _ h.lt, flatMap_set _ t _ _ h.lt, ← get_eq_getElem s t h.lt, hp, hb,
    List.append_assoc _ p, List.append_assoc p]
  exact .append_left _ (List.perm_append_comm_assoc _ _ _)

theorem account_upd {t : Nat} {x' : TS} (h : Upd s s' t x') (hp : x'.pending = (s.get t).pending)
    (hb : s'.handed ++ s'.openBatch = s.handed ++ s.openBatch) : s.account.Perm s'.account :=
  account_upd_perm (p := []) h hp.symm (by rw [hb, List.append_nil])

theorem account_step (hc : CInv s) (hs : Step s s') : s.account.Perm s'.account := by
  cases hs <;> rename_i t hlt hloc hg
  case a1ok =>
    -- the thread's pubs move from `pending` to the open batch; no outcome is set while entry is open
    have hopen : s.outcomeSet = false := (hc.openPh (no_exec_of_a1 hc t hloc hg)).1
    refine account_upd_perm (p := (s.get t).pubs) ⟨hlt, rfl⟩ (by simp [TS.pending, hloc, Loc.preAppend]) ?_
    simp only [St.outcomeSet] at hopen
    simp [St.handed, St.openBatch, St.outcomeSet, St.set, hopen]
  case b3ok | b3fail =>
    -- the open batch is handed to `f`
    have hopen := outcome_false_of_exec hc t (by rw [inExec_of_loc hloc]; rfl) (by rw [hloc]; rfl)
    refine account_upd ⟨hlt, rfl⟩ (pending_eq rfl rfl (by rw [hloc]; rfl)) ?_
    rw [St.openBatch, St.openBatch, hopen]; simp [St.handed, St.outcomeSet, St.at, St.set]
  case g4 =>
    -- the batch has been handed over: it does not count as open, before and after the reset
    have hset : s.outcomeSet = true := hc.outcome.mpr ⟨t, by simp [TS.inOut, TS.inExec, hloc, Loc.execOnly, Loc.outReg]⟩
    refine account_upd ⟨hlt, rfl⟩ (pending_eq rfl rfl (by rw [hloc]; rfl)) ?_
    rw [St.openBatch, St.openBatch, hset]; simp [St.handed, St.outcomeSet, St.at, St.set]
  case start =>
    obtain ⟨c, l, htd⟩ := List.exists_cons_of_ne_nil hg
    exact account_upd ⟨hlt, rfl⟩ (by simp [TS.pending, hloc, htd, Loc.preAppend]) rfl
  all_goals exact account_upd ⟨hlt, rfl⟩ (pending_eq rfl rfl (by rw [hloc]; rfl)) rfl

end

theorem account_init (th0 : List TS) (h0 : ∀ x ∈ th0, x.loc = .idle) :
    St.account { th := th0 } = th0.flatMap (fun x => x.todo.flatten) := by
  simp only [St.account, St.handed, St.openBatch, St.outcomeSet, List.flatMap_nil, List.nil_append]
  simp only [Option.isSome_none, Bool.or_self, Bool.false_eq_true, ↓reduceIte, List.nil_append]
  exact QVerif.flatMap_congr fun x hx => by simp [TS.pending, h0 x hx, Loc.preAppend]

theorem account_reachable (th0 : List TS) (h0 : ∀ x ∈ th0, x.loc = .idle) {s : St} (hr : Reachable th0 s) :
    s.account.Perm (th0.flatMap (fun x => x.todo.flatten)) :=
  hr.invariant h0 (by rw [account_init th0 h0]) fun hc _ ih hs => (account_step hc hs).symm.trans ih

end Runner
