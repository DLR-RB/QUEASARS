import QVerif.Lemmas.RunnerInv
import QVerif.Lemmas.RunnerRetry
namespace Runner

/-! ### progress measure (DESIGN Appendix A) -/

def rank (s : St) (u : Nat) : Nat :=
  match (s.get u).loc with
  | .idle => if (s.get u).todo.isEmpty then 0 else 60
  | .a0 => 59
  | .a1 => if s.V = none then 58 else 70
  | .a7 => 69 | .a8 => 68
  | .a9 => if u ∈ s.ecw then 67 else 66
  | .a2 => 57 | .a3 => 56 | .a4 => 55 | .b0 => 54 | .b1 => 53
  | .b2 => 52 | .b3 => 51 | .b4 => 50
  | .c0 => 52 | .c1 => 51
  | .c2 => if u ∈ s.icw then 50 else 41
  | .d0 => 40 | .d1 => 39 | .d2 => 38
  | .g0 => if s.tc > 0 then 36 else 30
  | .g1 => 35 | .g2 => 34 | .g3 => 33
  | .g4 => 20 | .g5 => 19 | .g6 => 18 | .g7 => 17
  | .r => 1

def phi (s : St) : Nat := sumUpTo (rank s) s.th.length

def muLt (s' s : St) : Prop := callsLeft s' < callsLeft s ∨ (callsLeft s' = callsLeft s ∧ phi s' < phi s)

/-! ### effect of a step on the measure

Proved as for `rank2` (`RunnerRetry`).  The ranks of the other threads read four shared fields: the waiter lists only lose other
threads (`Step.icw_mono`, `Step.ecw_mono`); that `V` is not taken while another thread is at `a1`, and that `tc` does not become
positive while another is at `g0`, is what the steps taking `V` or raising `tc` have to show (`hV`, `htc`). -/

section
variable {s s' : St} {t u : Nat} {x' : TS}

theorem Upd.rank_oth (h : Upd s s' t x') (hs : Step s s') (hu : u ≠ t)
    (hV : (s.get u).loc = .a1 → s.V = none → s'.V = none) (htc : (s.get u).loc = .g0 → s'.tc > 0 → s.tc > 0) :
    rank s' u ≤ rank s u := by
  unfold rank; rw [h.get_ne hu]
  cases hl : (s.get u).loc
  case a1 =>
    -- at `a1` the higher rank (70) is in the `else` branch: negate both conditions so that `ite_le_ite` applies
    show (if s'.V = none then 58 else 70) ≤ (if s.V = none then 58 else 70)
    rw [← ite_not (s'.V = none), ← ite_not (s.V = none)]
    exact ite_le_ite (mt (hV hl)) (by decide)
  case a9 => exact ite_le_ite (hs.ecw_mono (h.get_ne hu)) (by decide)
  case c2 => exact ite_le_ite (hs.icw_mono (h.get_ne hu)) (by decide)
  case g0 => exact ite_le_ite (htc hl) (by decide)
  all_goals exact Nat.le_refl _

theorem Upd.mu_lt (h : Upd s s' t x') (hs : Step s s') (hc : callW x' = callW (s.get t))
    (hown : ∀ x : St, (x.get t).loc = x'.loc → x.V = s'.V → rank x t < rank s t)
    (hV : ∀ u, u ≠ t → (s.get u).loc = .a1 → s.V = none → s'.V = none)
    (htc : ∀ u, u ≠ t → (s.get u).loc = .g0 → s'.tc > 0 → s.tc > 0) : muLt s' s :=
  .inr ⟨h.callsLeft_eq hc,
    h.sum_lt rank (hown _ (by rw [h.get_self]) rfl) fun u hu => h.rank_oth hs hu (hV u hu) (htc u hu)⟩

/-- a step that touches neither `V` nor `tc` costs no other thread anything -/
theorem Upd.mu_lt_frame (h : Upd s s' t x') (hs : Step s s') (hc : callW x' = callW (s.get t)) (hV : s'.V = s.V) (htc : s'.tc = s.tc)
    (hown : ∀ x : St, (x.get t).loc = x'.loc → x.V = s.V → rank x t < rank s t) : muLt s' s :=
  h.mu_lt hs hc (fun x hx e => hown x hx (e.trans hV)) (fun _ _ _ e => hV ▸ e) (fun _ _ _ e => htc ▸ e)

/-- the executor's `notify` at `g3`: either nobody is left to wake and it leaves the drain loop, or it goes round once more
    (+3) and the notified head of the waiter list pays for it (−9) -/
theorem mu_drain (hc : CInv s) (h : Upd s s' t x') (hs : Step s s') (hloc : (s.get t).loc = .g3) (hl' : x'.loc = .g0)
    (hcall : callW x' = callW (s.get t)) (hV : s'.V = s.V) (htc : s'.tc = s.tc) (hicw : s'.icw = s.icw.tail)
    (hG3 : s.tc = 0 ∨ ∃ w rest, s.icw = w :: rest ∧ (s.get w).loc = .c2 ∧ w ≠ t) : muLt s' s := by
  have oth (u) (hu : u ≠ t) : rank s' u ≤ rank s u := h.rank_oth hs hu (fun _ e => hV ▸ e) (fun _ e => htc ▸ e)
  have hl'' : (s'.get t).loc = .g0 := by rw [h.get_self, hl']
  rcases hG3 with h0 | ⟨w, rest, hw, hwl, hwt⟩
  · refine .inr ⟨h.callsLeft_eq hcall, h.sum_lt rank ?_ oth⟩
    simp only [rank, hl'', hloc, htc, h0]; decide
  · -- the head `w` of the queue is notified: in the queue before (50), out of it afterwards (41)
    have hw_in : w ∈ s.icw := by rw [hw]; exact List.mem_cons_self
    have hw_out : w ∉ s'.icw := by
      have hnod := hc.icwNodup
      rw [hw] at hnod
      rw [hicw, hw]; exact (List.nodup_cons.mp hnod).1
    refine .inr ⟨h.callsLeft_eq hcall, ?_⟩
    rw [phi, phi, h.len]
    refine sumUpTo_lt_comp (c := 3) h.lt (lt_of_loc (by rw [hwl]; decide)) (h1 := ?own) (h2 := ?head)
      (fun u _ hu _ => oth u hu)
    case own => simp only [rank, hl'', hloc]; split <;> decide
    case head => simp only [rank, h.get_ne hwt, hwl, hw_in, hw_out, if_true, if_false]; decide

end

/-- every step lowers `μ`, under three side conditions: `a0 → a1` is a descent only onto the low rank 58 of `a1`, i.e. with `V` free (`hA0`);
    taking `V` at `b1` would lift every thread at `a1` from 58 to 70, so nobody may be there (`hB1`); `g3 → g0` costs 3, paid by the waiter at
    `c2` that the `notify` moves from 50 to 41, unless `tc = 0` (`hG3`, `mu_drain`).  `progress` picks steps that meet them (`Side`). -/
theorem mu_of_step {s s' : St} (hc : CInv s) (hs : Step s s')
    (hA0 : ∀ t, (s.get t).loc = .a0 → (s'.get t).loc = .a1 → s.V = none)
    (hB1 : ∀ t, (s.get t).loc = .b1 → (s'.get t).loc ≠ .b1 → ∀ u, (s.get u).loc ≠ .a1)
    (hG3 : ∀ t, (s.get t).loc = .g3 → (s'.get t).loc = .g0 →
      s.tc = 0 ∨ ∃ w rest, s.icw = w :: rest ∧ (s.get w).loc = .c2 ∧ w ≠ t) :
    muLt s' s := by
  have hstep := hs
  cases hs <;> rename_i t hlt hloc hg
  case ret => exact .inl (Upd.callsLeft_lt ⟨hlt, rfl⟩ (by simp [callW, hloc]))
  case start =>
    obtain ⟨c, l, htd⟩ := List.exists_cons_of_ne_nil hg
    refine Upd.mu_lt_frame ⟨hlt, rfl⟩ hstep (by simp [callW, hloc, htd]) rfl rfl fun x hx _ => ?_
    simp [rank, hx, hloc, htd]
  case a0 =>
    have hV : s.V = none := hA0 t hloc (by rw [Upd.get_self ⟨hlt, rfl⟩])
    refine Upd.mu_lt_frame ⟨hlt, rfl⟩ hstep (callW_eq rfl (ne_idle hloc (by decide)) nofun) rfl rfl fun x hx hxV => ?_
    simp [rank, hx, hloc, hxV, hV]
  -- the steps that take `V` or change `tc`: nobody is at `a1`, resp. at `g0`, to be hurt
  case a1ok =>
    -- `t` holds the entry lock, so nobody else is at `a1` or `g0`
    have hE : (s.get t).holdsE = true := by rw [holdsE_of_loc hloc]; rfl
    refine Upd.mu_lt ⟨hlt, rfl⟩ hstep (callW_eq rfl (ne_idle hloc (by decide)) nofun) (hown := fun x hx _ => ?_)
      (hV := fun u hu h1 => absurd h1 (not_at_of_holder hc hE hu rfl))
      (htc := fun u hu h1 => absurd h1 (not_at_of_holder hc hE hu rfl))
    simp [rank, hx, hloc, hg]
  case b1exec | b1wait =>
    have hno := hB1 t hloc (by rw [Upd.get_self ⟨hlt, rfl⟩]; exact nofun)
    refine Upd.mu_lt ⟨hlt, rfl⟩ hstep (callW_eq rfl (ne_idle hloc (by decide)) nofun) (hown := fun x hx _ => ?_)
      (hV := fun u _ h1 => absurd h1 (hno u)) (htc := fun _ _ _ e => e)
    simp [rank, hx, hloc]
  case d0 =>
    have hno := noA1_of_outcome hc (hc.gathOutcome t (by rw [hloc]; rfl))
    refine Upd.mu_lt ⟨hlt, rfl⟩ hstep (callW_eq rfl (ne_idle hloc (by decide)) nofun) (hown := fun x hx _ => ?_)
      (hV := fun u _ h1 => absurd h1 (hno u)) (htc := fun _ _ _ (e : s.tc - 1 > 0) => by omega)
    simp [rank, hx, hloc]
  case g4 =>
    have hE : (s.get t).holdsE = true := by rw [holdsE_of_loc hloc]; rfl
    refine Upd.mu_lt ⟨hlt, rfl⟩ hstep (callW_eq rfl (ne_idle hloc (by decide)) nofun) (hown := fun x hx _ => ?_)
      (hV := fun u hu h1 => absurd h1 (not_at_of_holder hc hE hu rfl)) (htc := fun _ _ _ e => absurd e (Nat.lt_irrefl 0))
    simp [rank, hx, hloc]
  case g3 =>
    exact mu_drain hc ⟨hlt, rfl⟩ hstep hloc rfl (callW_eq rfl (ne_idle hloc (by decide)) nofun) rfl rfl rfl
      (hG3 t hloc (by rw [Upd.get_self ⟨hlt, rfl⟩]))
  -- releasing `V` hurts nobody
  case a3 | b4 | c0 | d2plain | g5 =>
    refine Upd.mu_lt ⟨hlt, rfl⟩ hstep (callW_eq rfl (ne_idle hloc (by decide)) nofun) (hown := fun x hx _ => ?_)
      (hV := fun _ _ _ _ => rfl) (htc := fun _ _ _ e => e)
    simp only [rank, hx, hloc]; decide
  case d2exec =>
    refine Upd.mu_lt ⟨hlt, rfl⟩ hstep (callW_eq rfl (ne_idle hloc (by decide)) nofun) (hown := fun x hx _ => ?_)
      (hV := fun _ _ _ _ => rfl) (htc := fun _ _ _ e => e)
    simp only [rank, hx, hloc]; split <;> decide
  -- the other steps touch neither `V` nor `tc`; what is left is the descent of the acting thread
  all_goals
    refine Upd.mu_lt_frame ⟨hlt, rfl⟩ hstep (callW_eq rfl (ne_idle hloc (by decide)) nofun) rfl rfl fun x hx _ => ?_
  -- the guard tells which of the two ranks of `a1` / `g0` it had
  case a1fail | g0wait | g0done => simp [rank, hx, hloc, hg]
  -- the table has an `if` at a9 and c2
  case a8 | a9 | a9timeout | c1 | c2 => simp only [rank, hx, hloc]; split <;> decide
  -- every remaining step moves its thread one location down the table
  all_goals simp only [rank, hx, hloc]; decide

/-- the side conditions of `mu_of_step`, as a property of the thread about to move -/
def Side (s : St) (t : Nat) : Prop :=
  match (s.get t).loc with
  | .a0 => s.V = none
  | .b1 => ∀ u, (s.get u).loc ≠ .a1
  | .g3 => s.tc = 0 ∨ ∃ w rest, s.icw = w :: rest ∧ (s.get w).loc = .c2 ∧ w ≠ t
  | _ => True

theorem Upd.mu_of_step {s s' : St} {t : Nat} {x' : TS} (h : Upd s s' t x') (hc : CInv s) (hs : Step s s')
    (hside : Side s t) : muLt s' s := by
  -- a thread whose location changed is the acting one
  have act {t' : Nat} {l : Loc} (e : (s.get t').loc = l) (hne : (s'.get t').loc ≠ l) : t' = t :=
    Classical.byContradiction fun ne => hne (by rw [h.get_ne ne, e])
  refine Runner.mu_of_step hc hs (fun t' e e' => ?_) (fun t' e e' => ?_) (fun t' e e' => ?_)
  · cases act e (by rw [e']; decide); simpa only [Side, e] using hside
  · cases act e e'; simpa only [Side, e] using hside
  · cases act e (by rw [e']; decide); simpa only [Side, e] using hside

end Runner
