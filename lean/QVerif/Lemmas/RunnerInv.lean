import QVerif.Lemmas.RunnerFrame
namespace Runner

-- Bool, so that they compute on concrete locations
def Loc.member : Loc → Bool
  | .a2 | .a3 | .a4 | .b0 | .b1 | .b2 | .b3 | .b4 | .c0 | .c1 | .c2 | .d0 => true
  | _ => false
def Loc.pre : Loc → Bool
  | .a2 | .a3 | .a4 | .b0 | .b1 => true
  | _ => false
def Loc.arrived : Loc → Bool
  | .b2 | .b3 | .b4 | .c0 | .c1 | .c2 | .d0 => true
  | _ => false
/-- locations only an executor can be at, inside the closed phase -/
def Loc.execOnly : Loc → Bool
  | .b2 | .b3 | .b4 | .g0 | .g1 | .g2 | .g3 | .g4 | .g5 | .g6 => true
  | _ => false
def Loc.gath : Loc → Bool
  | .d0 | .d1 | .d2 => true
  | _ => false
/-- executor locations at which the outcome of f is available -/
def Loc.outReg : Loc → Bool
  | .b4 | .d0 | .d1 | .d2 | .g0 | .g1 | .g2 | .g3 | .g4 => true
  | _ => false
def Loc.eHold : Loc → Bool      -- E held regardless of role
  | .a1 | .a2 | .a7 | .b3 | .b4 | .g0 | .g1 | .g2 | .g3 | .g4 | .g5 | .g6 => true
  | _ => false
def Loc.vHold : Loc → Bool
  | .a2 | .a3 | .b2 | .b3 | .b4 | .c0 | .d1 | .d2 | .g5 => true
  | _ => false

-- d0..d2 are walked by the executor and by the other members alike: there the role is the `exec` flag
def TS.inExec (x : TS) : Bool := x.loc.execOnly || (x.exec && x.loc.gath)
def TS.holdsE (x : TS) : Bool := x.loc.eHold || (x.exec && x.loc.gath)
def TS.holdsV (x : TS) : Bool := x.loc.vHold
def TS.isMember (x : TS) : Bool := x.loc.member
def TS.isPre (x : TS) : Bool := x.loc.pre
def TS.isArrived (x : TS) : Bool := x.loc.arrived
def St.outcomeSet (s : St) : Bool := s.result.isSome || s.exn.isSome
def TS.inOut (x : TS) : Bool := x.inExec && x.loc.outReg

/-! the predicates stay folded on unknown threads, and compute on literals / known locations -/
@[simp] theorem inExec_mk (l p i e r t o) : TS.inExec ⟨l, p, i, e, r, t, o⟩ = (l.execOnly || (e && l.gath)) := rfl
@[simp] theorem inOut_mk (l p i e r t o) : TS.inOut ⟨l, p, i, e, r, t, o⟩ = ((l.execOnly || (e && l.gath)) && l.outReg) := rfl
theorem inOut_of_loc {x : TS} {l : Loc} (h : x.loc = l) : x.inOut = ((l.execOnly || (x.exec && l.gath)) && l.outReg) := by simp [TS.inOut, TS.inExec, h]
theorem inOut_inExec {x : TS} (h : x.inOut = true) : x.inExec = true := by simp [TS.inOut] at h; exact h.1
@[simp] theorem holdsE_mk (l p i e r t o) : TS.holdsE ⟨l, p, i, e, r, t, o⟩ = (l.eHold || (e && l.gath)) := rfl
@[simp] theorem holdsV_mk (l p i e r t o) : TS.holdsV ⟨l, p, i, e, r, t, o⟩ = l.vHold := rfl
@[simp] theorem isMember_mk (l p i e r t o) : TS.isMember ⟨l, p, i, e, r, t, o⟩ = l.member := rfl
@[simp] theorem isPre_mk (l p i e r t o) : TS.isPre ⟨l, p, i, e, r, t, o⟩ = l.pre := rfl
@[simp] theorem isArrived_mk (l p i e r t o) : TS.isArrived ⟨l, p, i, e, r, t, o⟩ = l.arrived := rfl
theorem inExec_of_loc {x : TS} {l : Loc} (h : x.loc = l) : x.inExec = (l.execOnly || (x.exec && l.gath)) := by simp [TS.inExec, h]
theorem holdsE_of_loc {x : TS} {l : Loc} (h : x.loc = l) : x.holdsE = (l.eHold || (x.exec && l.gath)) := by simp [TS.holdsE, h]
theorem holdsV_of_loc {x : TS} {l : Loc} (h : x.loc = l) : x.holdsV = l.vHold := by simp [TS.holdsV, h]
theorem isMember_of_loc {x : TS} {l : Loc} (h : x.loc = l) : x.isMember = l.member := by simp [TS.isMember, h]
theorem isPre_of_loc {x : TS} {l : Loc} (h : x.loc = l) : x.isPre = l.pre := by simp [TS.isPre, h]
theorem isArrived_of_loc {x : TS} {l : Loc} (h : x.loc = l) : x.isArrived = l.arrived := by simp [TS.isArrived, h]
/-! how the tables hang together: each fact is checked row by row, so a table that a new location was forgotten in fails here -/
theorem gath_cases {l : Loc} : l.gath = true → l = .d0 ∨ l = .d1 ∨ l = .d2 := by
  cases l <;> decide
theorem Loc.eHold_of_outReg : ∀ {l : Loc}, l.execOnly = true → l.outReg = true → l.eHold = true := by
  intro l; cases l <;> decide
theorem inExec_holds {x : TS} (h : x.inExec = true) : x.holdsV = true ∨ x.holdsE = true :=
  have key : ∀ (l : Loc) (e : Bool), (l.execOnly || (e && l.gath)) = true → l.vHold = true ∨ (l.eHold || (e && l.gath)) = true := by
    intro l e; cases l <;> cases e <;> decide
  key x.loc x.exec h
theorem late_inExec {x : TS} (h : x.loc = .g4 ∨ x.loc = .g5 ∨ x.loc = .g6) : x.inExec = true := by
  rcases h with h | h | h <;> simp [inExec_of_loc h, Loc.execOnly]

/-- control invariant (DESIGN Appendix A, conjuncts 1–7 strengthened until inductive): locks ↔ location classes (`lockE`, `lockV`); the
    role flag is fixed wherever only one role can be: true at the executor-only locations and g7, false at c0..c2 (`execFlag`); one executor (`oneExec`); the counters count classes (`tcCount`, `ecCount`); without an
    executor nothing is set and not everybody has arrived (`openPh`), with one nobody is still arriving (`closedPh`); the outcome is set
    exactly while the executor is between b4 and g4 (`outcome`), so whoever gathers finds it (`gathOutcome`); the executor resets only after
    all have gathered (`lateTc`, `lateReset`); the waiter queues hold threads at their waiting locations, once each (`icwLoc` … `ecwNodup`);
    a thread at c2 that is no longer queued has been notified, which happens only after the outcome is set (`early`) -/
structure CInv (s : St) : Prop where
  lockE : ∀ t, s.E = some t ↔ (s.get t).holdsE = true
  lockV : ∀ t, s.V = some t ↔ (s.get t).holdsV = true
  execFlag : ∀ t, ((s.get t).loc.execOnly = true ∨ (s.get t).loc = .g7 → (s.get t).exec = true) ∧
                  ((s.get t).loc = .c0 ∨ (s.get t).loc = .c1 ∨ (s.get t).loc = .c2 → (s.get t).exec = false)
  oneExec : ∀ t u, (s.get t).inExec = true → (s.get u).inExec = true → t = u
  tcCount : s.tc = s.th.countP TS.isMember
  ecCount : s.ec = s.th.countP TS.isArrived + s.g
  openPh : (∀ t, (s.get t).inExec = false) → s.outcomeSet = false ∧ s.g = 0 ∧ (s.ec < s.tc ∨ (s.tc = 0 ∧ s.ec = 0))
  closedPh : ∀ t u, (s.get t).inExec = true → (s.get u).isPre = false
  outcome : s.outcomeSet = true ↔ ∃ t, (s.get t).inOut = true
  gathOutcome : ∀ t, (s.get t).loc.gath = true → s.outcomeSet = true
  lateTc : ∀ t, (s.get t).loc = .g4 ∨ (s.get t).loc = .g5 ∨ (s.get t).loc = .g6 → s.tc = 0
  lateReset : ∀ t, (s.get t).loc = .g5 ∨ (s.get t).loc = .g6 → s.ec = 0 ∧ s.g = 0
  icwLoc : ∀ t, t ∈ s.icw → (s.get t).loc = .c2 ∨ (s.get t).loc = .g2
  ecwLoc : ∀ t, t ∈ s.ecw → (s.get t).loc = .a9
  icwNodup : s.icw.Nodup
  ecwNodup : s.ecw.Nodup
  early : ∀ t, (s.get t).loc = .c2 → t ∉ s.icw → s.outcomeSet = true

theorem cinv_init (th : List TS) (h : ∀ x ∈ th, x.loc = .idle) : CInv { th := th } := by
  have hg := get_init th h
  have h1 := countP_eq_zero_of_get { th := th } TS.isMember fun u => by rw [isMember_of_loc (hg u)]; rfl
  have h2 := countP_eq_zero_of_get { th := th } TS.isArrived fun u => by rw [isArrived_of_loc (hg u)]; rfl
  -- every thread is idle, hence in no class, and the shared fields are the initial ones
  constructor
  case tcCount => exact h1.symm
  case ecCount => exact h2.symm
  all_goals simp [hg, TS.holdsE, TS.holdsV, TS.inExec, TS.inOut, Loc.eHold, Loc.vHold, Loc.execOnly, Loc.gath, St.outcomeSet, TS.isPre, Loc.pre]

theorem member_split (l : List TS) : l.countP TS.isMember = l.countP TS.isPre + l.countP TS.isArrived := by
  induction l with
  | nil => rfl
  | cons x t ih =>
    simp only [List.countP_cons, ih, TS.isMember, TS.isPre, TS.isArrived]
    obtain ⟨l, _, _, _, _, _, _⟩ := x
    cases l <;> simp [Loc.member, Loc.pre, Loc.arrived] <;> omega

theorem pre_le_member (l : List TS) : l.countP TS.isPre ≤ l.countP TS.isMember := by
  have := member_split l; omega

/-! ### updates of one thread and the location classes

The clauses of `CInv` survive a step for reasons of a few kinds only: a lock kept, taken or released, a counter following a thread
into a class, a waiter queue that only the acting thread joins (all in `RunnerFrame`), and the facts below about the executor
classes. Each is stated once about an arbitrary update `Upd`; the proofs per clause then name the steps that matter. -/

section upd
variable {s s' : St} {t : Nat} {x' : TS}

theorem oneExec_update (th : List TS) (t : Nat) (x : TS) (hlt : t < th.length)
    (hold : ∀ a b, (th.getD a {}).inExec = true → (th.getD b {}).inExec = true → a = b)
    (hnew : x.inExec = true → (th.getD t {}).inExec = true ∨ ∀ u, u ≠ t → (th.getD u {}).inExec = false) :
    ∀ a b, ((th.set t x).getD a {}).inExec = true → ((th.set t x).getD b {}).inExec = true → a = b := by
  -- an old executor `a ≠ t` and the new `x` cannot both be executors: `hnew` says that `t` was the executor (so `a = t` by `hold`)
  -- or that nobody else was
  have clash : ∀ a, a ≠ t → (th.getD a {}).inExec = true → x.inExec = true → False := fun a hat ha hx =>
    (hnew hx).elim (fun ht => hat (hold a t ha ht)) (fun hno => by rw [hno a hat] at ha; cases ha)
  intro a b ha hb
  rw [QVerif.getD_set _ _ _ _ _ hlt] at ha hb
  by_cases hat : a = t <;> by_cases hbt : b = t <;> simp only [hat, hbt, if_true, if_false] at ha hb
  · rw [hat, hbt]
  · exact (clash b hbt hb ha).elim
  · exact (clash a hat ha hb).elim
  · exact hold a b ha hb

theorem oneExec_upd (hu : Upd s s' t x') (h : ∀ a b, (s.get a).inExec = true → (s.get b).inExec = true → a = b)
    (hnew : x'.inExec = true → (s.get t).inExec = true ∨ ∀ u, u ≠ t → (s.get u).inExec = false) :
    ∀ a b, (s'.get a).inExec = true → (s'.get b).inExec = true → a = b := by
  have := oneExec_update s.th t x' hu.lt h hnew
  rw [← hu.th] at this
  exact this

/-- the acting thread may newly enter one of the two classes only if no OTHER thread is in the opposite one (`hE`, `hP`), and never both
    at once (`hself`) -/
theorem closed_upd (hu : Upd s s' t x') (h : ∀ a b, (s.get a).inExec = true → (s.get b).isPre = false)
    (hself : x'.inExec = true → x'.isPre = false)
    (hE : x'.inExec = true → (s.get t).inExec = true ∨ ∀ b, b ≠ t → (s.get b).isPre = false)
    (hP : x'.isPre = true → (s.get t).isPre = true ∨ ∀ a, a ≠ t → (s.get a).inExec = false) :
    ∀ a b, (s'.get a).inExec = true → (s'.get b).isPre = false := by
  intro a b ha
  rw [hu.get] at ha ⊢
  by_cases hat : a = t <;> by_cases hbt : b = t <;> simp only [hat, hbt, if_true, if_false] at ha ⊢
  · exact hself ha
  · exact (hE ha).elim (fun h' => h t b h') (fun h' => h' b hbt)
  · cases hp : x'.isPre with
    | false => rfl
    | true =>
      rcases hP hp with h' | h'
      · rw [h a t ha] at h'; cases h'
      · rw [h' a hat] at ha; cases ha
  · exact h a b ha

/-- the usual case: neither class is newly entered -/
theorem closed_mono (hu : Upd s s' t x') (h : ∀ a b, (s.get a).inExec = true → (s.get b).isPre = false)
    (hE : x'.inExec = true → (s.get t).inExec = true) (hP : x'.isPre = true → (s.get t).isPre = true) :
    ∀ a b, (s'.get a).inExec = true → (s'.get b).isPre = false :=
  closed_upd hu h (fun hx => by cases hp : x'.isPre with | false => rfl | true => rw [h t t (hE hx)] at hP; cases hP hp)
    (fun hx => .inl (hE hx)) (fun hp => .inl (hP hp))

/-! the outcome flag `o` stands for `∃ w, inOut`: kept by a step that keeps the acting thread's `inOut`, set when that thread enters the
`outReg` stretch, cleared when it leaves it -/

theorem outcome_keep {o o' : Bool} (hu : Upd s s' t x') (h : o = true ↔ ∃ w, (s.get w).inOut = true) (ho : o' = o)
    (hx : x'.inOut = (s.get t).inOut) : o' = true ↔ ∃ w, (s'.get w).inOut = true := by
  rw [ho, hu.exists TS.inOut, h, hx]
  exact exists_split TS.inOut s.th t

theorem outcome_set {o' : Bool} (hu : Upd s s' t x') (ho : o' = true) (hx : x'.inOut = true) :
    o' = true ↔ ∃ w, (s'.get w).inOut = true := by
  rw [ho, hu.exists TS.inOut]; simp [hx]

/-- no other thread is in the stretch: the executor is unique (`h1`) -/
theorem outcome_clear {o' : Bool} (hu : Upd s s' t x')
    (h1 : ∀ a b, (s.get a).inExec = true → (s.get b).inExec = true → a = b) (ho : o' = false)
    (hx : x'.inOut = false) (ht : (s.get t).inExec = true) : o' = true ↔ ∃ w, (s'.get w).inOut = true := by
  rw [ho, hu.exists TS.inOut]
  simp only [hx, false_or, Bool.false_eq_true, false_iff]
  rintro ⟨w, hwt, hw⟩
  exact hwt (h1 w t (inOut_inExec hw) ht)

theorem open_upd {C C' : Prop} (hu : Upd s s' t x') (h : (∀ u, (s.get u).inExec = false) → C)
    (hmono : x'.inExec = false → (s.get t).inExec = false) (hC : C → C') : (∀ u, (s'.get u).inExec = false) → C' := by
  intro hopen'
  refine hC (h fun u => ?_)
  by_cases hut : u = t
  · exact hut ▸ hmono (hu.get_self ▸ hopen' t)
  · exact hu.get_ne hut ▸ hopen' u

theorem open_vacuous {C' : Prop} (hu : Upd s s' t x') (hx : x'.inExec = true) : (∀ u, (s'.get u).inExec = false) → C' :=
  fun h => by rw [← hu.get_self, h t] at hx; cases hx

end upd

/-! ### preservation, clause by clause

In every proof the named cases are the steps that need more than the tables: an old-state fact, a guard, another clause.
For the others a frame lemma reduces the clause to the acting thread, and `simp`, `rfl` or `nomatch` evaluates the location
tables on it (for the counters also the arithmetic of the step). The steps into and
out of the gathering stretch (b4, c2, d2) are named wherever the clause reads `inExec`, `holdsE` or `inOut`, whose value at
d0..d2 is the `exec` flag: it is known there from `execFlag` (b4, c2) or from the guard (d2). Where a clause constrains the acting thread
at both ends of a step (d0 and d1 inside the gathering stretch for the executor classes, g5 among the late locations) the step
is named as well: the clause for the new state is then the clause for the old one. -/

section preservation
variable {s s' : St}

theorem pres_lockE (h : CInv s) (hs : Step s s') : ∀ u, s'.E = some u ↔ (s'.get u).holdsE = true := by
  cases hs <;> rename_i t hlt hloc hg
  case a0 | b2 => exact lock_acquire ⟨hlt, rfl⟩ h.lockE hg rfl
  case a2 | a7 | g6 =>
    exact lock_release ⟨hlt, rfl⟩ h.lockE (by rw [holdsE_of_loc hloc]; rfl) (by simp [Loc.eHold, Loc.gath])
  all_goals refine lock_keep ⟨hlt, rfl⟩ h.lockE ?_
  case b4 | c2 | d2exec | d2plain =>
    have hx := h.execFlag t
    simp_all [get_with, holdsE_of_loc hloc, Loc.eHold, Loc.gath, Loc.execOnly]
  all_goals simp [get_with, holdsE_of_loc hloc, Loc.eHold, Loc.gath]

theorem pres_lockV (h : CInv s) (hs : Step s s') : ∀ u, s'.V = some u ↔ (s'.get u).holdsV = true := by
  cases hs <;> rename_i t hlt hloc hg
  case a1ok | d0 | g4 => exact lock_acquire ⟨hlt, rfl⟩ h.lockV hg rfl
  case b1exec | b1wait => exact lock_acquire ⟨hlt, rfl⟩ h.lockV hg.1 rfl
  case a3 | b4 | c0 | d2exec | d2plain | g5 =>
    exact lock_release ⟨hlt, rfl⟩ h.lockV (by rw [holdsV_of_loc hloc]; rfl) rfl
  all_goals
    refine lock_keep ⟨hlt, rfl⟩ h.lockV ?_
    rw [holdsV_of_loc hloc]; rfl

theorem pres_execFlag (h : CInv s) (hs : Step s s') : ∀ u,
    ((s'.get u).loc.execOnly = true ∨ (s'.get u).loc = .g7 → (s'.get u).exec = true) ∧
    ((s'.get u).loc = .c0 ∨ (s'.get u).loc = .c1 ∨ (s'.get u).loc = .c2 → (s'.get u).exec = false) := by
  have fr := fun {t x'} (hu : Upd s s' t x') => hu.forall (P := fun _ y =>
    (y.loc.execOnly = true ∨ y.loc = .g7 → y.exec = true) ∧ (y.loc = .c0 ∨ y.loc = .c1 ∨ y.loc = .c2 → y.exec = false))
  cases hs <;> rename_i t hlt hloc hg <;> refine fr ⟨hlt, rfl⟩ ?_ (fun u _ => h.execFlag u)
  -- the steps that stay where the flag is fixed keep it
  case b2 | b3ok | b3fail | c0 | c1 | g0wait | g0done | g1 | g2 | g2timeout | g3 | g4 | g5 | g6 =>
    simpa [get_with, hloc, Loc.execOnly] using h.execFlag t
  -- the others set it (b1), read it (d2), or lead to where it is free
  all_goals simp [get_with, hg, Loc.execOnly]

theorem member_pos (h : CInv s) (u : Nat) (hm : (s.get u).loc.member = true) : 0 < s.tc := by
  rw [h.tcCount]; exact countP_pos_of_get s TS.isMember (by simp [TS.isMember, Loc.member]) u (by simpa [TS.isMember] using hm)

theorem member_exists (h : CInv s) (htc : s.tc > 0) : ∃ w, w < s.th.length ∧ (s.get w).isMember = true :=
  get_of_countP_pos s _ (h.tcCount ▸ htc)

theorem pres_tc (h : CInv s) (hs : Step s s') : s'.tc = s'.th.countP TS.isMember := by
  cases hs <;> rename_i t hlt hloc hg <;> refine count_upd (k := 0) (k' := 0) ⟨hlt, rfl⟩ h.tcCount ?_
  case d0 =>
    have := member_pos h t (by rw [hloc]; rfl)
    simp [St.set, isMember_of_loc hloc, Loc.member]; omega
  -- the reset writes `tc := 0` where it was 0 already (`lateTc`)
  case g4 => simp [St.at, St.set, isMember_of_loc hloc, Loc.member, h.lateTc t (.inl hloc)]
  all_goals rw [isMember_of_loc hloc]; rfl

theorem pres_ec (h : CInv s) (hs : Step s s') : s'.ec = s'.th.countP TS.isArrived + s'.g := by
  cases hs <;> rename_i t hlt hloc hg <;> refine count_upd ⟨hlt, rfl⟩ h.ecCount ?_
  -- at the reset nobody has arrived: there are tc = 0 members
  case g4 =>
    have h0 := h.lateTc t (.inl hloc)
    have := member_split s.th
    have := h.tcCount
    have := h.ecCount
    simp [St.at, St.set, isArrived_of_loc hloc, Loc.arrived]; omega
  case d0 => simp [St.set, isArrived_of_loc hloc, Loc.arrived]; omega
  all_goals rw [isArrived_of_loc hloc]; rfl

theorem no_exec_of_pre (h : CInv s) {t : Nat} (ht : (s.get t).isPre = true) (u : Nat) : (s.get u).inExec = false :=
  Bool.eq_false_iff.mpr fun hu => by rw [h.closedPh u t hu] at ht; cases ht

/-- an executor holds V, or E, which this thread holds -/
theorem no_exec_of_a1 (h : CInv s) (t : Nat) (hloc : (s.get t).loc = .a1) (hV : s.V = none) (u : Nat) :
    (s.get u).inExec = false :=
  Bool.eq_false_iff.mpr fun hu => by
    have hEt := (h.lockE t).mpr (by rw [holdsE_of_loc hloc]; rfl)
    rcases inExec_holds hu with hV' | hE'
    · rw [(h.lockV u).mpr hV'] at hV; cases hV
    · rw [(h.lockE u).mpr hE'] at hEt; cases hEt
      simp [inExec_of_loc hloc, Loc.execOnly, Loc.gath] at hu

theorem pres_oneExec (h : CInv s) (hs : Step s s') :
    ∀ a b, (s'.get a).inExec = true → (s'.get b).inExec = true → a = b := by
  cases hs <;> rename_i t hlt hloc hg
  case b1exec =>
    exact oneExec_upd ⟨hlt, rfl⟩ h.oneExec fun _ => .inr fun u _ => no_exec_of_pre h (by rw [isPre_of_loc hloc]; rfl) u
  all_goals refine oneExec_upd ⟨hlt, rfl⟩ h.oneExec (fun hnew => .inl ?_)
  case b4 | c2 | d2exec | d2plain =>
    have hx := h.execFlag t
    simp_all [get_with, inExec_of_loc hloc, Loc.execOnly, Loc.gath]
  -- within d0..d2 the role is the flag, which the step keeps
  case d0 | d1 => simpa [get_with, inExec_of_loc hloc, Loc.execOnly, Loc.gath] using hnew
  all_goals simp [get_with, inExec_of_loc hloc, Loc.execOnly, Loc.gath] at hnew ⊢

/-- the clauses `lateTc` and `lateReset` about one thread -/
def LateOk (tc ec g : Nat) (y : TS) : Prop :=
  (y.loc = .g4 ∨ y.loc = .g5 ∨ y.loc = .g6 → tc = 0) ∧ (y.loc = .g5 ∨ y.loc = .g6 → ec = 0 ∧ g = 0)

theorem lateOk_of_not_exec {tc ec g : Nat} {y : TS} (hy : y.inExec = false) : LateOk tc ec g y :=
  ⟨fun hl => absurd (late_inExec hl) (by simp [hy]), fun hl => absurd (late_inExec (.inr hl)) (by simp [hy])⟩

theorem pres_late (h : CInv s) (hs : Step s s') : ∀ u, LateOk s'.tc s'.ec s'.g (s'.get u) := by
  have hold : ∀ u, LateOk s.tc s.ec s.g (s.get u) := fun u => ⟨h.lateTc u, h.lateReset u⟩
  have fr := fun {t x'} (hu : Upd s s' t x') => hu.forall (P := fun _ => LateOk s'.tc s'.ec s'.g)
  cases hs <;> rename_i t hlt hloc hg
  -- the counters grow only while there is no executor, hence no thread at g4..g6
  case a1ok =>
    exact fr ⟨hlt, rfl⟩ (by simp [LateOk]) (fun u _ => lateOk_of_not_exec (no_exec_of_a1 h t hloc hg u))
  case b1exec | b1wait =>
    exact fr ⟨hlt, rfl⟩ (by simp [LateOk])
      (fun u _ => lateOk_of_not_exec (no_exec_of_pre h (by rw [isPre_of_loc hloc]; rfl) u))
  -- d0 is a member, so tc > 0 and again no thread is at g4..g6
  case d0 =>
    have := member_pos h t (by rw [hloc]; rfl)
    exact fr ⟨hlt, rfl⟩ (by simp [LateOk])
      (fun u _ => ⟨fun hl => by have := h.lateTc u hl; omega, fun hl => by have := h.lateTc u (.inr hl); omega⟩)
  case g0done => exact fr ⟨hlt, rfl⟩ ⟨fun _ => Nat.eq_zero_of_not_pos hg, by simp⟩ (fun u _ => hold u)
  case g4 => exact fun u => ⟨fun _ => rfl, fun _ => ⟨rfl, rfl⟩⟩
  all_goals refine fr ⟨hlt, rfl⟩ ?_ (fun u _ => hold u)
  case g5 => simpa [LateOk, hloc, St.at, St.set] using hold t
  all_goals simp [LateOk, St.at, St.set]

theorem pres_icw (h : CInv s) (hs : Step s s') :
    (∀ u, u ∈ s'.icw → (s'.get u).loc = .c2 ∨ (s'.get u).loc = .g2) ∧ s'.icw.Nodup := by
  have hn := h.icwNodup
  have notin : ∀ {t l}, (s.get t).loc = l → l ≠ .c2 → l ≠ .g2 → t ∉ s.icw :=
    fun hloc h1 h2 hm => by rcases h.icwLoc _ hm with e | e <;> rw [hloc] at e <;> contradiction
  -- nobody but the acting thread joins the queue (`Step.icw_mono`), so what is left is that thread and `Nodup`
  have hstep := hs
  have fr := fun {t x'} (hu : Upd s s' t x') =>
    queue_upd (q' := s'.icw) (fun l => l = .c2 ∨ l = .g2) hu h.icwLoc fun u hut => hstep.icw_mono (hu.get_ne hut)
  cases hs <;> rename_i t hlt hloc hg
  case c1 | g1 => exact ⟨fr ⟨hlt, rfl⟩ (fun _ => by simp), nodup_push hn (notin hloc (by decide) (by decide))⟩
  case d1 | g3 =>
    exact ⟨fr ⟨hlt, rfl⟩ (fun hm => absurd (List.mem_of_mem_tail hm) (notin hloc (by decide) (by decide))), hn.tail⟩
  case g2timeout => exact ⟨fr ⟨hlt, rfl⟩ (fun hm => absurd rfl ((List.Nodup.mem_erase_iff hn).mp hm).1), hn.erase _⟩
  case c2 | g2 => exact ⟨fr ⟨hlt, rfl⟩ (fun hm => absurd hm hg), hn⟩
  all_goals exact ⟨fr ⟨hlt, rfl⟩ (fun hm => absurd hm (notin hloc (by decide) (by decide))), hn⟩

theorem pres_ecw (h : CInv s) (hs : Step s s') :
    (∀ u, u ∈ s'.ecw → (s'.get u).loc = .a9) ∧ s'.ecw.Nodup := by
  have hn := h.ecwNodup
  have notin : ∀ {t l}, (s.get t).loc = l → l ≠ .a9 → t ∉ s.ecw :=
    fun hloc h1 hm => by have e := h.ecwLoc _ hm; rw [hloc] at e; contradiction
  have hstep := hs
  have fr := fun {t x'} (hu : Upd s s' t x') =>
    queue_upd (q' := s'.ecw) (· = .a9) hu h.ecwLoc fun u hut => hstep.ecw_mono (hu.get_ne hut)
  cases hs <;> rename_i t hlt hloc hg
  case a4 | g7 => exact ⟨fun u hm => absurd hm List.not_mem_nil, List.nodup_nil⟩
  case a8 => exact ⟨fr ⟨hlt, rfl⟩ (fun _ => rfl), nodup_push hn (notin hloc (by decide))⟩
  case a9timeout => exact ⟨fr ⟨hlt, rfl⟩ (fun hm => absurd rfl ((List.Nodup.mem_erase_iff hn).mp hm).1), hn.erase _⟩
  case a9 => exact ⟨fr ⟨hlt, rfl⟩ (fun hm => absurd hm hg), hn⟩
  all_goals exact ⟨fr ⟨hlt, rfl⟩ (fun hm => absurd hm (notin hloc (by decide))), hn⟩

theorem pres_closedPh (h : CInv s) (hs : Step s s') :
    ∀ a b, (s'.get a).inExec = true → (s'.get b).isPre = false := by
  cases hs <;> rename_i t hlt hloc hg
  case a1ok =>
    exact closed_upd ⟨hlt, rfl⟩ h.closedPh (by simp [Loc.execOnly, Loc.gath]) (by simp [Loc.execOnly, Loc.gath])
      (fun _ => .inr fun a _ => no_exec_of_a1 h t hloc hg a)
  case b1exec =>
    -- ec + 1 = tc counts this thread as the last member to arrive, so no other thread is `pre`
    have hopen := h.openPh (no_exec_of_pre h (by rw [isPre_of_loc hloc]; rfl))
    have htc := h.tcCount
    have hec := h.ecCount
    have hsp := member_split s.th
    refine closed_upd ⟨hlt, rfl⟩ h.closedPh (fun _ => rfl) (fun _ => .inr fun b hbt => ?_) (fun hp => nomatch hp)
    cases hpb : (s.get b).isPre with
    | false => rfl
    | true =>
      have := countP_two TS.isPre rfl s b t hbt hpb (by rw [isPre_of_loc hloc]; rfl)
      omega
  all_goals
    refine closed_mono ⟨hlt, rfl⟩ h.closedPh (fun hnew => ?_) (fun hp => by simp [isPre_of_loc hloc, Loc.pre] at hp ⊢)
  case b4 | c2 | d2exec | d2plain =>
    have hx := h.execFlag t
    simp_all [get_with, inExec_of_loc hloc, Loc.execOnly, Loc.gath]
  case d0 | d1 => simpa [get_with, inExec_of_loc hloc, Loc.execOnly, Loc.gath] using hnew
  all_goals simp [get_with, inExec_of_loc hloc, Loc.execOnly, Loc.gath] at hnew ⊢

theorem pres_outcome (h : CInv s) (hs : Step s s') : s'.outcomeSet = true ↔ ∃ w, (s'.get w).inOut = true := by
  cases hs <;> rename_i t hlt hloc hg
  case b3ok | b3fail => exact outcome_set ⟨hlt, rfl⟩ (by simp [St.outcomeSet, St.at, St.set]) rfl
  case g4 => exact outcome_clear ⟨hlt, rfl⟩ h.oneExec rfl rfl (by rw [inExec_of_loc hloc]; rfl)
  all_goals refine outcome_keep ⟨hlt, rfl⟩ h.outcome rfl ?_
  case b4 | c2 | d2exec | d2plain =>
    have hx := h.execFlag t
    simp_all [get_with, inOut_of_loc hloc, Loc.execOnly, Loc.gath, Loc.outReg]
  all_goals simp [get_with, inOut_of_loc hloc, Loc.execOnly, Loc.gath, Loc.outReg]

theorem pres_gathOutcome (h : CInv s) (hs : Step s s') : ∀ u, (s'.get u).loc.gath = true → s'.outcomeSet = true := by
  have fr := fun {t x'} (hu : Upd s s' t x') => hu.forall (P := fun _ y => y.loc.gath = true → s'.outcomeSet = true)
  cases hs <;> rename_i t hlt hloc hg
  -- a thread starts gathering from b4 (the executor, after the outcome was set) or from c2 once it has been notified
  case b4 =>
    have : s.outcomeSet = true := h.outcome.mpr ⟨t, by simp [inOut_of_loc hloc, Loc.execOnly, Loc.outReg]⟩
    exact fr ⟨hlt, rfl⟩ (fun _ => this) (fun u _ => h.gathOutcome u)
  case c2 => exact fr ⟨hlt, rfl⟩ (fun _ => h.early t hloc hg) (fun u _ => h.gathOutcome u)
  case b3ok | b3fail => exact fun _ _ => by simp [St.outcomeSet, St.at, St.set]
  -- the outcome is cleared when nobody gathers any more: d0 is a member (but tc = 0), d1 and d2 hold V (which is free)
  case g4 =>
    have htc := h.lateTc t (.inl hloc)
    refine fr ⟨hlt, rfl⟩ (fun hh => nomatch hh) (fun u _ hh => ?_)
    have hV := (lock_free h.lockV).mp hg u
    rcases gath_cases hh with h0 | h0 | h0
    · have := member_pos h u (by rw [h0]; rfl); omega
    all_goals rw [holdsV_of_loc h0] at hV; cases hV
  -- a gathering thread that goes on gathering found the outcome set, and these steps leave it set
  case d0 | d1 => exact fr ⟨hlt, rfl⟩ (fun _ => h.gathOutcome t (by rw [hloc]; rfl)) (fun u _ => h.gathOutcome u)
  all_goals exact fr ⟨hlt, rfl⟩ (fun hh => nomatch hh) (fun u _ => h.gathOutcome u)

theorem pres_early (h : CInv s) (hs : Step s s') :
    ∀ u, (s'.get u).loc = .c2 → u ∉ s'.icw → s'.outcomeSet = true := by
  have fr := fun {t x'} (hu : Upd s s' t x') =>
    hu.forall (P := fun u y => y.loc = .c2 → u ∉ s'.icw → s'.outcomeSet = true)
  cases hs <;> rename_i t hlt hloc hg
  case c1 =>
    exact fr ⟨hlt, rfl⟩ (fun _ hn => absurd (List.mem_append_right _ (List.mem_singleton.mpr rfl)) hn)
      (fun u _ hl hn => h.early u hl fun hm => hn (List.mem_append_left _ hm))
  case g1 =>
    exact fr ⟨hlt, rfl⟩ (fun hl => nomatch hl) (fun u _ hl hn => h.early u hl fun hm => hn (List.mem_append_left _ hm))
  case g2timeout =>
    exact fr ⟨hlt, rfl⟩ (fun hl => nomatch hl)
      (fun u hut hl hn => h.early u hl fun hm => hn ((List.mem_erase_of_ne hut).mpr hm))
  -- a notification is sent (the queue loses its head) only while the outcome is set
  case d1 => exact fun _ _ _ => h.gathOutcome t (by rw [hloc]; rfl)
  case g3 =>
    exact fun _ _ _ => h.outcome.mpr ⟨t, by simp_all [inOut_of_loc hloc, Loc.execOnly, Loc.outReg]⟩
  case b3ok | b3fail => exact fun _ _ _ => by simp [St.outcomeSet, St.at, St.set]
  -- the outcome is cleared when tc = 0, and c2 is a member location
  case g4 =>
    have htc := h.lateTc t (.inl hloc)
    exact fr ⟨hlt, rfl⟩ (fun hl => nomatch hl) (fun u _ hl => by have := member_pos h u (by rw [hl]; rfl); omega)
  all_goals exact fr ⟨hlt, rfl⟩ (fun hl => nomatch hl) (fun u _ => h.early u)

theorem outcome_false_of_exec (h : CInv s) (t : Nat) (hx : (s.get t).inExec = true) (hno : (s.get t).loc.outReg = false) :
    s.outcomeSet = false :=
  Bool.eq_false_iff.mpr fun ho => by
    obtain ⟨w, hw⟩ := h.outcome.mp ho
    have hwt : w = t := h.oneExec w t (inOut_inExec hw) hx
    subst hwt
    simp [TS.inOut, hno] at hw

theorem pres_openPh (h : CInv s) (hs : Step s s') :
    (∀ u, (s'.get u).inExec = false) → s'.outcomeSet = false ∧ s'.g = 0 ∧ (s'.ec < s'.tc ∨ (s'.tc = 0 ∧ s'.ec = 0)) := by
  cases hs <;> rename_i t hlt hloc hg
  case a1ok =>
    refine open_upd ⟨hlt, rfl⟩ h.openPh (fun _ => by simp [inExec_of_loc hloc, Loc.execOnly, Loc.gath]) ?_
    exact fun ⟨ho, hg0, har⟩ => ⟨ho, hg0, .inl (by simp only [St.set]; omega)⟩
  case b1wait =>
    have := member_pos h t (by rw [hloc]; rfl)
    refine open_upd ⟨hlt, rfl⟩ h.openPh (fun _ => by simp [inExec_of_loc hloc, Loc.execOnly, Loc.gath]) ?_
    exact fun ⟨ho, hg0, har⟩ => ⟨ho, hg0, .inl (by simp only [St.set]; omega)⟩
  -- no thread gathers while there is no executor: gathering needs the outcome
  case d0 =>
    have := h.gathOutcome t (by rw [hloc]; rfl)
    refine open_upd ⟨hlt, rfl⟩ h.openPh (fun hx' => by simpa [inExec_of_loc hloc, Loc.execOnly, Loc.gath] using hx') ?_
    exact fun ⟨ho, _⟩ => by rw [this] at ho; cases ho
  -- the executor leaves with everything reset
  case g6 =>
    have ho := outcome_false_of_exec h t (late_inExec (.inr (.inr hloc))) (by rw [hloc]; rfl)
    have htc := h.lateTc t (.inr (.inr hloc))
    have hr := h.lateReset t (.inr hloc)
    exact fun _ => ⟨ho, hr.2, .inr ⟨htc, hr.1⟩⟩
  case b1exec | b3ok | b3fail | g4 => exact open_vacuous ⟨hlt, rfl⟩ rfl
  all_goals refine open_upd ⟨hlt, rfl⟩ h.openPh (fun hx' => ?_) id
  case b4 | c2 | d2exec | d2plain =>
    have hx := h.execFlag t
    simp_all [get_with, inExec_of_loc hloc, Loc.execOnly, Loc.gath]
  case d1 => simpa [get_with, inExec_of_loc hloc, Loc.execOnly, Loc.gath] using hx'
  all_goals simp [get_with, inExec_of_loc hloc, Loc.execOnly, Loc.gath] at hx' ⊢

theorem cinv_step (h : CInv s) (hs : Step s s') : CInv s' where
  lockE := pres_lockE h hs
  lockV := pres_lockV h hs
  execFlag := pres_execFlag h hs
  oneExec := pres_oneExec h hs
  tcCount := pres_tc h hs
  ecCount := pres_ec h hs
  openPh := pres_openPh h hs
  closedPh := pres_closedPh h hs
  outcome := pres_outcome h hs
  gathOutcome := pres_gathOutcome h hs
  lateTc := fun u => (pres_late h hs u).1
  lateReset := fun u => (pres_late h hs u).2
  icwLoc := (pres_icw h hs).1
  ecwLoc := (pres_ecw h hs).1
  icwNodup := (pres_icw h hs).2
  ecwNodup := (pres_ecw h hs).2
  early := pres_early h hs

end preservation

/-- reachable by the executable `step` (not the relation `Step`) from the state with thread list `th0` and initial shared fields -/
inductive Reachable (th0 : List TS) : St → Prop
  | init : Reachable th0 { th := th0 }
  | next {s s' : St} (a : Act) : Reachable th0 s → step s a = some s' → Reachable th0 s'

theorem cinv_reachable (th0 : List TS) (h0 : ∀ x ∈ th0, x.loc = .idle) {s : St} (hr : Reachable th0 s) : CInv s := by
  induction hr with
  | init => exact cinv_init th0 h0
  | next a _ hstep ih => exact cinv_step ih (step_sound _ _ a hstep)

/-- C07 (batching wrappers); `b3` is `f(batch).result()` -/
theorem f_exclusive (th0 : List TS) (h0 : ∀ x ∈ th0, x.loc = .idle) {s : St} (hr : Reachable th0 s)
    (a b : Nat) (ha : (s.get a).loc = .b3) (hb : (s.get b).loc = .b3) : a = b ∧ s.E = some a ∧ s.V = some a := by
  have h := cinv_reachable th0 h0 hr
  refine ⟨h.oneExec a b ?_ ?_, (h.lockE a).mpr ?_, (h.lockV a).mpr ?_⟩
  · rw [inExec_of_loc ha]; rfl
  · rw [inExec_of_loc hb]; rfl
  · rw [holdsE_of_loc ha]; rfl
  · rw [holdsV_of_loc ha]; rfl

/-- the "Result was not yet ready to retrieve!" branch is dead: whenever a thread is about to gather, the outcome is set -/
theorem gather_has_outcome (th0 : List TS) (h0 : ∀ x ∈ th0, x.loc = .idle) {s : St} (hr : Reachable th0 s)
    (t : Nat) (ht : (s.get t).loc = .d0) : gather s ≠ .exc 999 ∨ s.exn = some 999 := by
  have h := cinv_reachable th0 h0 hr
  have ho := h.gathOutcome t (by rw [ht]; rfl)
  simp only [St.outcomeSet, Bool.or_eq_true, Option.isSome_iff_exists] at ho
  rcases ho with ⟨rs, hrs⟩ | ⟨e, he⟩
  · left; simp [gather, hrs]
  · cases hres : s.result with
    | some rs => left; simp [gather, hres]
    | none =>
      by_cases h9 : e = 999
      · right; rw [he, h9]
      · left; simp [gather, hres, he, h9]

theorem holdsE_unique {s : St} (hc : CInv s) {a b : Nat} (ha : (s.get a).holdsE = true) (hb : (s.get b).holdsE = true) :
    a = b :=
  lock_unique hc.lockE ha hb

theorem not_at_of_holder {s : St} (hc : CInv s) {w u : Nat} {l : Loc} (hw : (s.get w).holdsE = true) (hu : u ≠ w)
    (hl : l.eHold = true) : (s.get u).loc ≠ l :=
  fun h => hu (holdsE_unique hc (by rw [holdsE_of_loc h, hl]; rfl) hw)

theorem inOut_holdsE {x : TS} (h : x.inOut = true) : x.holdsE = true := by
  simp only [TS.inOut, TS.inExec, TS.holdsE, Bool.and_eq_true, Bool.or_eq_true] at h ⊢
  exact h.1.imp_left fun hx => Loc.eHold_of_outReg hx h.2

/-- once the outcome is set the executor holds the entry lock, so nobody is trying the variable lock at `a1` -/
theorem noA1_of_outcome {s : St} (hc : CInv s) (ho : s.outcomeSet = true) (u : Nat) : (s.get u).loc ≠ .a1 := by
  intro hu
  obtain ⟨w, hw⟩ := hc.outcome.mp ho
  cases holdsE_unique hc (by rw [holdsE_of_loc hu]; rfl) (inOut_holdsE hw)
  simp [inOut_of_loc hu, Loc.execOnly, Loc.gath] at hw

/-- while the executor sits at `g3`, a non-empty waiter list has a member at `c2` at its head: the only other thread that queues
    there is an executor at `g2`, and there is one executor -/
theorem drain_head {s : St} {t : Nat} (hc : CInv s) (hloc : (s.get t).loc = .g3) {m : Nat} (hm : m ∈ s.icw) :
    ∃ w rest, s.icw = w :: rest ∧ (s.get w).loc = .c2 ∧ w ≠ t := by
  cases hi : s.icw with
  | nil => rw [hi] at hm; cases hm
  | cons w rest =>
    refine ⟨w, rest, rfl, ?_⟩
    rcases hc.icwLoc w (by rw [hi]; exact List.mem_cons_self) with e | e
    · exact ⟨e, fun h => by rw [h, hloc] at e; cases e⟩
    · cases hc.oneExec w t (by rw [inExec_of_loc e]; rfl) (by rw [inExec_of_loc hloc]; rfl)
      rw [hloc] at e; cases e

end Runner
