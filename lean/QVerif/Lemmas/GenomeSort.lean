import QVerif.Model.Genome
import QVerif.Lemmas.Lists

/-! C04: parameter names are layer-major, hence sorting all slots = concatenating the
per-layer sorted slots. -/

namespace QVerif.Genome

theorem padDigits_length (w n : Nat) : (padDigits w n).length = w := by
  induction w generalizing n with
  | zero => rfl
  | succ k ih => simp [padDigits, ih]

theorem padDigits_lt {w a b : Nat} (hb : b < 10 ^ w) (hab : a < b) : padDigits w a < padDigits w b := by
  induction w generalizing a b with
  | zero => simp at hb; omega
  | succ k ih =>
    simp only [padDigits]
    have hpos : 0 < 10 ^ k := Nat.pow_pos (by omega)
    by_cases hq : a / 10 ^ k < b / 10 ^ k
    · exact List.Lex.rel (by omega)
    · have hle : a / 10 ^ k ≤ b / 10 ^ k := Nat.div_le_div_right (Nat.le_of_lt hab)
      have heq : a / 10 ^ k = b / 10 ^ k := by omega
      rw [heq]
      apply List.Lex.cons
      apply ih (Nat.mod_lt _ hpos)
      have ha := Nat.div_add_mod a (10 ^ k)
      have hb' := Nat.div_add_mod b (10 ^ k)
      rw [heq] at ha
      omega

theorem lt_append_of_lt_same_length {x y : List Nat} (hl : x.length = y.length) (h : x < y) (r1 r2 : List Nat) :
    x ++ r1 < y ++ r2 := by
  induction h with
  | nil => simp at hl
  | rel hr => exact List.Lex.rel hr
  | cons _ ih2 =>
    exact List.Lex.cons (ih2 (by simpa using hl))

theorem name_layer_major (s t : Slot) (h : s.layer < t.layer) (ht : t.layer < 10 ^ 9) : s.name < t.name := by
  unfold Slot.name
  simp only [List.append_assoc]
  apply List.append_left_lt
  exact lt_append_of_lt_same_length (by rw [padDigits_length, padDigits_length]) (padDigits_lt ht h) _ _

theorem mem_layerSlots_layer {i : Nat} {l : Layer} {s : Slot} (h : s ∈ layerSlots i l) : s.layer = i := by
  simp only [layerSlots, List.mem_flatMap] at h
  obtain ⟨g, _, hs⟩ := h
  split at hs
  · simp only [List.mem_cons, List.not_mem_nil, or_false] at hs
    rcases hs with rfl | rfl | rfl <;> rfl
  · cases hs

theorem sortSlots_perm (l : List Slot) : (sortSlots l).Perm l := List.mergeSort_perm l _

theorem sortSlots_pairwise (l : List Slot) : (sortSlots l).Pairwise (fun a b => a.name ≤ b.name) :=
  pairwise_mergeSort_decide (r := fun a b => a.name ≤ b.name) (fun _ _ _ => List.le_trans) (fun _ _ => List.le_total _ _) l

theorem mem_sortSlots {l : List Slot} {s : Slot} : s ∈ sortSlots l ↔ s ∈ l := (sortSlots_perm l).mem_iff

theorem length_sortSlots (l : List Slot) : (sortSlots l).length = l.length := (sortSlots_perm l).length_eq

theorem flatMap_perm_pieces {α β} (f g : α → List β) : ∀ (l : List α), (∀ a ∈ l, (f a).Perm (g a)) →
    (l.flatMap f).Perm (l.flatMap g)
  | [], _ => by simp
  | a :: t, h => by
      exact (h a (by simp)).append (flatMap_perm_pieces f g t (fun b hb => h b (List.mem_cons_of_mem _ hb)))

/-- `hinj`: Qiskit rejects duplicate parameter names -/
theorem sort_concat (L : Nat → Layer) (is : List Nat) (hinc : is.Pairwise (· < ·)) (hb : ∀ i ∈ is, i < 10 ^ 9)
    (hinj : ∀ s ∈ is.flatMap (fun i => layerSlots i (L i)), ∀ t ∈ is.flatMap (fun i => layerSlots i (L i)),
      s.name = t.name → s = t) :
    sortSlots (is.flatMap (fun i => layerSlots i (L i))) = is.flatMap (fun i => sortSlots (layerSlots i (L i))) := by
  -- two sorted permutations of one list are equal when the order is antisymmetric on its elements
  refine List.Perm.eq_of_pairwise (le := fun a b => a.name ≤ b.name) ?antisymm ?sortedL ?sortedR ?perm
  case antisymm =>
    intro a b ha hbm hab hba
    apply hinj a (mem_sortSlots.mp ha) b ?_ (List.le_antisymm hab hba)
    simp only [List.mem_flatMap] at hbm ⊢
    obtain ⟨i, hi, hbi⟩ := hbm
    exact ⟨i, hi, mem_sortSlots.mp hbi⟩
  case sortedL => exact sortSlots_pairwise _
  case sortedR =>
    -- within a layer by `sortSlots`, across layers because names are layer-major
    rw [List.pairwise_flatMap]
    refine ⟨fun i _ => sortSlots_pairwise _, hinc.imp_of_mem fun {i j} _ hj hlt x hx y hy => ?_⟩
    have hxl := mem_layerSlots_layer (mem_sortSlots.mp hx)
    have hyl := mem_layerSlots_layer (mem_sortSlots.mp hy)
    exact List.le_of_lt (name_layer_major x y (by rw [hxl, hyl]; exact hlt) (by rw [hyl]; exact hb j hj))
  case perm => exact (sortSlots_perm _).trans (flatMap_perm_pieces _ _ is (fun i _ => (sortSlots_perm _).symm))

theorem zip_flatMap {α β γ} (f : α → List β) (g : α → List γ) : ∀ (l : List α),
    (∀ a ∈ l, (f a).length = (g a).length) → (l.flatMap f).zip (l.flatMap g) = l.flatMap (fun a => (f a).zip (g a))
  | [], _ => by simp
  | a :: t, h => by
      simp only [List.flatMap_cons]
      rw [List.zip_append (h a (by simp)), zip_flatMap f g t (fun b hb => h b (List.mem_cons_of_mem _ hb))]

end QVerif.Genome
