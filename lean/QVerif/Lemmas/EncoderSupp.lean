import QVerif.Lemmas.EncoderPoly
import QVerif.Lemmas.PairTerms

/-! The operator built by the encoder only mentions qubits below the reported qubit count. -/

namespace QVerif.Encoder

/-- every `Z` of every term acts on a qubit below `n` -/
def Supp (p : Poly) (n : Nat) : Prop := ∀ t ∈ p, ∀ q ∈ t.2, q < n

theorem supp_nil (n : Nat) : Supp [] n := by intro t ht; cases ht
theorem supp_pconst (c : Rat) (n : Nat) : Supp (pconst c) n := by
  intro t ht q hq
  simp only [pconst, List.mem_singleton] at ht
  subst ht; cases hq
theorem supp_pz {q n : Nat} (h : q < n) : Supp (pz q) n := by
  intro t ht q' hq; simp only [pz, List.mem_singleton] at ht; subst ht
  simp only [List.mem_singleton] at hq; omega
theorem supp_padd {p q : Poly} {n : Nat} (hp : Supp p n) (hq : Supp q n) : Supp (padd p q) n := by
  intro t ht; rcases List.mem_append.mp ht with h | h
  · exact hp t h
  · exact hq t h
theorem supp_pscale (c : Rat) {p : Poly} {n : Nat} (hp : Supp p n) : Supp (pscale c p) n := by
  intro t ht q hq
  obtain ⟨t', ht', rfl⟩ := List.mem_map.mp ht
  exact hp t' ht' q hq
theorem supp_pmul {p q : Poly} {n : Nat} (hp : Supp p n) (hq : Supp q n) : Supp (pmul p q) n := by
  intro t ht x hx
  obtain ⟨a, ha, hta⟩ := List.mem_flatMap.mp ht
  obtain ⟨b, hb, rfl⟩ := List.mem_map.mp hta
  rcases List.mem_append.mp hx with h | h
  · exact hp a ha x h
  · exact hq b hb x h
theorem supp_psum {ps : List Poly} {n : Nat} (h : ∀ p ∈ ps, Supp p n) : Supp (psum ps) n := by
  intro t ht
  obtain ⟨p, hp, htp⟩ := List.mem_flatten.mp ht
  exact h p hp t htp

theorem supp_psum_map {α} {l : List α} {f : α → Poly} {n : Nat} (h : ∀ x ∈ l, Supp (f x) n) : Supp (psum (l.map f)) n :=
  supp_psum fun p hp => by obtain ⟨x, hx, rfl⟩ := List.mem_map.mp hp; exact h x hx

theorem supp_zdP {v : Var} {n k : Nat} (hv : v.qstart + v.nq ≤ n) (hk : k ≤ v.nq + 1) : Supp (zdP v k) n := by
  unfold zdP
  split
  · exact supp_pconst _ _
  · split
    · exact supp_pconst _ _
    · exact supp_pz (by omega)

theorem supp_valueTermP {v : Var} {n idx : Nat} (hv : v.qstart + v.nq ≤ n) (hi : idx ≤ v.nq) : Supp (valueTermP v idx) n := by
  unfold valueTermP
  split
  · exact supp_pconst _ _
  · exact supp_pscale _ (supp_padd (supp_zdP hv (by omega)) (supp_pscale _ (supp_zdP hv (by omega))))

theorem supp_viabilityP {v : Var} {n : Nat} (hv : v.qstart + v.nq ≤ n) : Supp (viabilityP v) n := by
  unfold viabilityP
  split
  · exact supp_pscale _ (supp_pconst _ _)
  · apply supp_psum
    intro p hp
    rcases List.mem_append.mp hp with h | h
    · obtain ⟨k, hk, rfl⟩ := List.mem_map.mp h
      have := List.mem_range.mp hk
      exact supp_pscale _ (supp_padd (supp_pconst _ _) (supp_pscale _ (supp_pmul (supp_zdP hv (by omega)) (supp_zdP hv (by omega)))))
    · simp only [List.mem_singleton] at h; subst h; exact supp_pconst _ _

theorem supp_pairTermP {flat : List OpVar} {t : PairTerm} {n : Nat} (ht : TermOk flat t)
    (hrange : ∀ x ∈ flat, x.var.qstart + x.var.nq ≤ n) : Supp (pairTermP t) n := by
  refine supp_psum_map fun pr hpr => ?_
  obtain ⟨s1, s2⟩ := pr
  have := ht.hp (s1, s2) hpr
  exact supp_pmul (supp_valueTermP (hrange _ ht.ha) (values_sub_le this.1)) (supp_valueTermP (hrange _ ht.hb) (values_sub_le this.2))

theorem energyPolyOf_supp (pen : Penalties) (inst : EInst) (limit : Nat) (vars : List (List Var))
    (h : prepare inst limit = .ok vars) : Supp (energyPolyOf pen inst vars limit) (nQubits vars) := by
  have hok := opVars_ok inst limit vars h
  have hrange : ∀ x ∈ (opVars inst vars).flatten, x.var.qstart + x.var.nq ≤ nQubits vars :=
    fun x hx => prepare_var_range h x.var (hok x hx).mem
  -- the five summands of `energyPolyOf`, in its order
  unfold energyPolyOf
  refine supp_padd (supp_padd (supp_padd (supp_padd ?_ ?_) ?_) ?_) ?_
  · exact supp_pscale _ (supp_psum_map fun t ht => supp_pairTermP (precTerms_ok _ t ht) hrange)
  · exact supp_pscale _ (supp_psum_map fun t ht => supp_pairTermP (ovlTerms_ok _ t ht) hrange)
  · exact supp_pscale _ (supp_psum_map fun x hx => supp_pscale _ (supp_viabilityP (hrange x hx)))
  · apply supp_pscale
    unfold makespanTermP
    refine supp_psum_map fun row hrow => ?_
    cases hl : row.getLast? with
    | none => exact supp_nil _
    | some x =>
      have hx : x ∈ (opVars inst vars).flatten := List.mem_flatten.mpr ⟨row, hrow, List.mem_of_getLast? hl⟩
      exact supp_psum_map fun s hs => supp_pscale _ (supp_valueTermP (hrange x hx) (values_sub_le hs))
  · apply supp_pscale
    unfold earlyStartTermP
    refine supp_psum_map fun x hx => supp_psum_map fun i hi => ?_
    split
    · exact supp_nil _
    · have := List.mem_range.mp hi
      exact supp_pscale _ (supp_valueTermP (hrange x hx) (by simp only [Var.nq]; omega))

end QVerif.Encoder
