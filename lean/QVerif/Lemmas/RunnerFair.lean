import QVerif.Lemmas.RunnerLive
namespace Runner

/-! ### Strong fairness: no infinite fair execution

`RunnerRetry` shows without any invariant that a strongly fair infinite execution has a *quiet tail*: from some point on every
step is an iteration step of one of the two retry loops, and no thread outside the loops is ever enabled (`quiet_tail`).  Here
the invariant enters: in such a quiet state the threads outside the loops are blocked (`Ready` fails), which pins down who holds
the variable lock and where the members of the batch are — the analysis of `progress` once more, through the same facts about
the location classes — and every retry step then lowers a measure `Psi`.  So the tail cannot be infinite. -/

theorem en_g6 {s : St} {t : Nat} (hlt : t < s.th.length) (hloc : (s.get t).loc = .g6) : EnabledT t s :=
  Ready.enabled (by simp [Ready, hloc])

theorem en_g7 {s : St} {t : Nat} (hlt : t < s.th.length) (hloc : (s.get t).loc = .g7) : EnabledT t s :=
  Ready.enabled (by simp [Ready, hloc])

theorem en_g4 {s : St} {t : Nat} (hlt : t < s.th.length) (hloc : (s.get t).loc = .g4) (hV : s.V = none) : EnabledT t s :=
  Ready.enabled (by simp [Ready, hloc, hV])

def Quiet (s : St) : Prop := ∀ u, u < s.th.length → (s.get u).loc.retry = false → ¬ EnabledT u s

def psiA (pos : Bool) : Loc → Nat
  | .a7 => 4 | .a8 => 3 | .a9 => 2 | .a0 => 1
  | .g0 => if pos then 4 else 0
  | .g1 => 3 | .g2 => 2 | .g3 => 1
  | _ => 0

def psiB : Loc → Nat
  | .a1 => 1 | .a8 => 2 | .a9 => 1
  | _ => 0

/-- Two tables, for the two kinds of quiet state.  Variable lock held: its holder waits at `b2` for the entry lock
    (`quiet_vholder`), so `a0` is not passed and the release at `a7` cannot happen (it would make the holder ready): the entry loop
    runs down to `a0`/`a7` (`psiB`).  Variable lock free: the try-lock at `a1` cannot fail, and while `tc > 0` every member waits at
    `c2` in the waiter list (`quiet_member_waits`), so the `notify` at `g3` cannot happen (it would wake one): the loops run down to
    `a1` and `g3` (`psiA`). -/
def Psi (s : St) : Nat :=
  if s.V = none then sumUpTo (fun u => psiA (decide (s.tc > 0)) (s.get u).loc) s.th.length
  else sumUpTo (fun u => psiB (s.get u).loc) s.th.length

section
variable {s s' : St} {t : Nat} {x' : TS}

theorem Quiet.not_ready (hq : Quiet s) (hr : (s.get t).loc.retry = false) : ¬ Ready s t :=
  fun h => hq t h.lt hr h.enabled

theorem Quiet.canWait (hq : Quiet s) (hr : (s.get t).loc.retry = false) : (s.get t).loc.canWait = true :=
  Classical.byContradiction fun h => hq.not_ready hr (.of_free (by simpa using h))

theorem Loc.retry_of_vHold : ∀ {l : Loc}, l.vHold = true → l.retry = false := by
  intro l; cases l <;> decide
theorem Loc.retry_of_member : ∀ {l : Loc}, l.member = true → l.retry = false := by
  intro l; cases l <;> decide

theorem Upd.loc_sum_lt (h : Upd s s' t x') (W : Loc → Nat) (hown : W x'.loc < W (s.get t).loc) :
    sumUpTo (fun u => W (s'.get u).loc) s'.th.length < sumUpTo (fun u => W (s.get u).loc) s.th.length :=
  h.sum_lt (fun s u => W (s.get u).loc) (by rw [h.get_self]; exact hown) fun u hu => by rw [h.get_ne hu]; exact Nat.le_refl _

end

theorem quiet_vholder {s : St} (hc : CInv s) (hq : Quiet s) (h : Nat) (hV : s.V = some h) : (s.get h).loc = .b2 := by
  have hv : (s.get h).loc.vHold = true := (hc.lockV h).mp hV
  exact Loc.vHold_canWait hv (hq.canWait (Loc.retry_of_vHold hv))

theorem quiet_member_waits {s : St} (hc : CInv s) (hq : Quiet s) (hV : s.V = none) (w : Nat) (hw : w < s.th.length)
    (hm : (s.get w).isMember = true) : (s.get w).loc = .c2 ∧ w ∈ s.icw := by
  have hr := Loc.retry_of_member hm
  have hn := hq.not_ready hr
  rcases Loc.member_canWait hm (hq.canWait hr) with e | e | e | e
  · exact absurd (by simp [Ready, e, hV]) hn
  · have := (hc.lockV w).mpr (by rw [holdsV_of_loc e]; rfl); rw [hV] at this; cases this
  · exact ⟨e, Classical.byContradiction fun hi => hn (by simp [Ready, e, hi])⟩
  · exact absurd (by simp [Ready, e, hV]) hn

theorem psi_step {s s' : St} {t : Nat} (hc : CInv s) (hq : Quiet s) (hq' : Quiet s') (hlt : t < s.th.length)
    (hsh : RetryShape s t s') : Psi s' < Psi s := by
  obtain ⟨_, r⟩ := hsh.upd hlt
  have hup := r.upd
  have still {z : Nat} {l : Loc} (hz : (s.get z).loc = l) (hr : l.retry = false) (hzt : z ≠ t) :
      (s'.get z).loc = l ∧ ¬ Ready s' z :=
    have hl' : (s'.get z).loc = l := by rw [hup.get_ne hzt, hz]
    ⟨hl', hq'.not_ready (hl' ▸ hr)⟩
  -- an executor in the drain loop is the only executor
  have drain {l : Loc} (hl : (s.get t).loc = l) (hx : l.execOnly = true) (hne : l ≠ .b2) (z : Nat)
      (hz : (s.get z).loc = .b2) : False := by
    cases hc.oneExec t z (by rw [inExec_of_loc hl, hx]; rfl) (by rw [inExec_of_loc hz]; rfl)
    exact hne (hl ▸ hz)
  unfold Psi; rw [r.V, r.tc]
  cases hV : s.V with
  | none =>
    rw [if_pos rfl, if_pos rfl]
    cases hsh with
    | a1fail hloc hg => exact absurd hV hg
    | g0wait hloc hg => refine Upd.loc_sum_lt ⟨hlt, rfl⟩ _ ?_; simp only [hloc, psiA, hg]; decide
    | g3 hloc hg =>
      by_cases hpos : s.tc > 0
      · -- a member of the batch waits in the list; the notify wakes the head, which is then ready: impossible in a quiet state
        exfalso
        obtain ⟨w, hw, hm⟩ := member_exists hc hpos
        obtain ⟨_, hwi⟩ := quiet_member_waits hc hq hV w hw hm
        obtain ⟨w0, rest, hicw, h1, hw0⟩ := drain_head hc hloc hwi
        have hnod := hc.icwNodup
        rw [hicw] at hnod
        have ⟨hl', hn⟩ := still h1 rfl hw0
        refine hn ?_
        simp only [Ready, hl']
        show w0 ∉ s.icw.tail
        rw [hicw]; exact (List.nodup_cons.mp hnod).1
      · refine Upd.loc_sum_lt ⟨hlt, rfl⟩ _ ?_; simp only [hloc, psiA, hpos]; decide
    | a0 hloc hg | a7 hloc hg | a8 hloc hg | a9 hloc hg | a9timeout hloc hg | g1 hloc hg | g2 hloc hg
    | g2timeout hloc hg =>
      refine Upd.loc_sum_lt ⟨hlt, rfl⟩ _ ?_; simp only [hloc, psiA]; decide
  | some z =>
    have hz := quiet_vholder hc hq z hV
    have hE : s.E ≠ none := fun e => hq.not_ready (by rw [hz]; rfl) (by simp [Ready, hz, e])
    rw [if_neg nofun, if_neg nofun]
    cases hsh with
    | a0 hloc hg => exact absurd hg hE
    | a7 hloc hg =>
      -- releasing the entry lock makes the executor-elect ready: impossible in a quiet state
      have ⟨hl', hn⟩ := still hz rfl (fun e => by rw [e, hloc] at hz; cases hz)
      exact (hn (by simp only [Ready, hl']; rfl)).elim
    | g0wait hloc hg | g1 hloc hg | g2 hloc hg | g2timeout hloc hg | g3 hloc hg => exact (drain hloc rfl (by decide) z hz).elim
    | a1fail hloc hg | a8 hloc hg | a9 hloc hg | a9timeout hloc hg =>
      refine Upd.loc_sum_lt ⟨hlt, rfl⟩ _ ?_; simp only [hloc, psiB]; decide

theorem reachable_seq (th0 : List TS) {σ : Nat → St} (hr : Reachable th0 (σ 0))
    (h : ∀ i, Step (σ i) (σ (i + 1)) ∨ σ (i + 1) = σ i) : ∀ i, Reachable th0 (σ i)
  | 0 => hr
  | i + 1 => (h i).elim
      (fun hs => let ⟨a, ha⟩ := step_complete _ _ hs; .next a (reachable_seq th0 hr h i) ha)
      (fun e => e ▸ reachable_seq th0 hr h i)

theorem no_infinite_fair_execution (th0 : List TS) (h0 : ∀ x ∈ th0, x.loc = .idle) (σ : Nat → St)
    (hr : Reachable th0 (σ 0)) (hex : IsExec σ) (hf : StrongFair σ) : False := by
  obtain ⟨M, ht, hq⟩ := quiet_tail hex hf
  -- `Psi` would go down for ever
  have desc (k : Nat) : Psi (σ (M + k + 1)) < Psi (σ (M + k)) := by
    obtain ⟨t, hlt, hsh⟩ := ht (M + k) (by omega)
    exact psi_step (cinv_reachable th0 h0 (reachable_seq th0 hr (fun i => .inl (hex i)) _))
      (fun u hu hn => hq (M + k) (by omega) u hu hn) (fun u hu hn => hq (M + k + 1) (by omega) u hu hn) hlt hsh
  obtain ⟨N, hN⟩ := eventually_const _ (fun k => Psi (σ (M + k))) (fun k => Nat.le_of_lt (desc k)) rfl
  have e : Psi (σ (M + N + 1)) = Psi (σ (M + N)) := hN N (Nat.le_refl N)
  exact absurd (e ▸ desc N) (Nat.lt_irrefl _)

end Runner
