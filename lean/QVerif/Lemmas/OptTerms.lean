import QVerif.Lemmas.PairTerms

/-! The two optimisation terms (C01/C02).  Both are weights that never decrease, contracted with the value terms of a
variable: on a decoded state they pick the weight of the decoded start (a ratio of natural numbers in `[0, 1]`), on every
state they are at least the first weight, which is non-negative. -/

namespace QVerif.Encoder
open QVerif.DoubleCount

theorem one_div_natCast_pos {M : Nat} (h : 0 < M) : (0 : Rat) < 1 / (M : Rat) := by
  rw [Rat.div_def, Rat.one_mul]; exact Rat.inv_pos.mpr (Rat.natCast_pos.mpr h)

theorem one_div_natCast_nonneg (M : Nat) : (0 : Rat) ≤ 1 / (M : Rat) := by
  by_cases h0 : M = 0
  · rw [h0, Rat.div_def, show ((0 : Nat) : Rat) = 0 from rfl, Rat.inv_zero, Rat.mul_zero]; exact Rat.le_refl
  · exact Rat.le_of_lt (one_div_natCast_pos (Nat.pos_of_ne_zero h0))

/-- a ratio of natural numbers `E ≤ M`, written as the code computes it -/
theorem ratio_bounds {E M : Nat} (h : E ≤ M) : 0 ≤ 1 / (M : Rat) * (E : Rat) ∧ 1 / (M : Rat) * (E : Rat) ≤ 1 := by
  refine ⟨Rat.mul_nonneg (one_div_natCast_nonneg M) Rat.natCast_nonneg, ?_⟩
  by_cases h0 : M = 0
  · rw [show E = 0 by omega, show ((0 : Nat) : Rat) = 0 from rfl, Rat.mul_zero]; exact Rat.natCast_nonneg (a := 1)
  · have hM : ((M : Nat) : Rat) ≠ 0 := fun e => h0 (Rat.natCast_eq_zero_iff.mp e)
    have := Rat.mul_le_mul_of_nonneg_left (Rat.natCast_le_natCast.mpr h) (one_div_natCast_nonneg M)
    rw [Rat.div_def, Rat.one_mul] at this ⊢
    rwa [Rat.inv_mul_cancel _ hM] at this

def endSum (ovs : List (List OpVar)) (bits : Bits) : Nat :=
  (ovs.map (fun row => match row.getLast? with
    | none => 0
    | some x => (ovs.length + 1) ^ (startOf x bits + x.op.dur))).sum

def maxOptNat (ovs : List (List OpVar)) (limit : Nat) : Nat := ovs.length * (ovs.length + 1) ^ limit

theorem maxOptNat_pos (ovs : List (List OpVar)) (limit : Nat) (h : 1 ≤ ovs.length) : 0 < maxOptNat ovs limit :=
  Nat.mul_pos h (Nat.pow_pos (by omega))

theorem makespanTerm_decoded (ovs : List (List OpVar)) (limit : Nat) (bits : Bits) (hd : AllDecoded ovs bits) :
    makespanTerm ovs limit bits = (1 / ((maxOptNat ovs limit : Nat) : Rat)) * ((endSum ovs bits : Nat) : Rat) := by
  unfold makespanTerm endSum maxOptNat
  simp only
  rw [natCast_sum, ← sum_map_mul_left]
  congr 1
  apply List.map_congr_left
  intro row hrow
  cases hl : row.getLast? with
  | none => simp
  | some x =>
    obtain ⟨k, hk⟩ := hd x (List.mem_flatten.mpr ⟨row, hrow, List.mem_of_getLast? hl⟩)
    simp only
    rw [startOf_decoded hk, ← sum_values_decoded hk (fun s => (1 / ((ovs.length * (ovs.length + 1) ^ limit : Nat) : Rat)) *
      (((ovs.length + 1) ^ (s + x.op.dur) : Nat) : Rat))]

theorem endSum_le (ovs : List (List OpVar)) (limit : Nat) (bits : Bits) (hd : AllDecoded ovs bits)
    (hfit : ∀ x ∈ ovs.flatten, x.var.lo + x.var.nq + x.op.dur ≤ limit) : endSum ovs bits ≤ maxOptNat ovs limit := by
  unfold endSum maxOptNat
  rw [← sumN_eq_sum_map]
  refine sumN_const_le _ _ ovs (fun row hrow => ?_)
  cases hl : row.getLast? with
  | none => exact Nat.zero_le _
  | some x =>
    have hx : x ∈ ovs.flatten := List.mem_flatten.mpr ⟨row, hrow, List.mem_of_getLast? hl⟩
    obtain ⟨k, hk⟩ := hd x hx
    simp only
    rw [startOf_decoded hk]
    have := hfit x hx; have := hk.hk
    exact Nat.pow_le_pow_right (by omega) (by omega)

theorem makespanTerm_bounds (ovs : List (List OpVar)) (limit : Nat) (bits : Bits) (hd : AllDecoded ovs bits)
    (hfit : ∀ x ∈ ovs.flatten, x.var.lo + x.var.nq + x.op.dur ≤ limit) :
    0 ≤ makespanTerm ovs limit bits ∧ makespanTerm ovs limit bits ≤ 1 := by
  rw [makespanTerm_decoded ovs limit bits hd]
  exact ratio_bounds (endSum_le ovs limit bits hd hfit)

theorem endSum_pos (ovs : List (List OpVar)) (bits : Bits) (hne : ∃ row ∈ ovs, row ≠ []) : 0 < endSum ovs bits := by
  obtain ⟨row, hrow, hr⟩ := hne
  refine Nat.lt_of_lt_of_le ?_ (le_sum_of_mem _ ovs row hrow)
  cases hl : row.getLast? with
  | none => exact absurd (List.getLast?_eq_none_iff.mp hl) hr
  | some x => exact Nat.pow_pos (by omega)

theorem makespanTerm_pos (ovs : List (List OpVar)) (limit : Nat) (bits : Bits) (hd : AllDecoded ovs bits)
    (hne : ∃ row ∈ ovs, row ≠ []) : 0 < makespanTerm ovs limit bits := by
  rw [makespanTerm_decoded ovs limit bits hd]
  have hlen : 1 ≤ ovs.length := by
    obtain ⟨row, hrow, _⟩ := hne
    exact List.length_pos_of_mem hrow
  exact Rat.mul_pos (one_div_natCast_pos (maxOptNat_pos ovs limit hlen)) (Rat.natCast_pos.mpr (endSum_pos ovs bits hne))

/-- the weights `(n+1)^(s + dur) / maxOpt` grow with the start `s` -/
theorem makespanTerm_nonneg (ovs : List (List OpVar)) (limit : Nat) (bits : Bits)
    (hn : ∀ x ∈ ovs.flatten, x.var.nvals = x.var.nq + 1) : 0 ≤ makespanTerm ovs limit bits := by
  apply sum_nonneg_of_forall
  intro row hrow
  cases hl : row.getLast? with
  | none => exact Rat.le_refl
  | some x =>
    have hx : x ∈ ovs.flatten := List.mem_flatten.mpr ⟨row, hrow, List.mem_of_getLast? hl⟩
    have hM := one_div_natCast_nonneg (ovs.length * (ovs.length + 1) ^ limit)
    simp only
    rw [sum_values_eq_range]
    refine Rat.le_trans (Rat.mul_nonneg hM Rat.natCast_nonneg) (range_sum_ge x.var bits (hn x hx) _ (fun k _ => ?_))
    exact Rat.mul_le_mul_of_nonneg_left (Rat.natCast_le_natCast.mpr (Nat.pow_le_pow_right (by omega) (by omega))) hM

def idxSum (ovs : List (List OpVar)) (bits : Bits) : Nat := (ovs.flatten.map (fun x => startOf x bits - x.var.lo)).sum

def zNat (ovs : List (List OpVar)) : Nat := (ovs.flatten.map (fun x => x.var.nvals - 1)).sum

theorem earlyStartTerm_eq (ovs : List (List OpVar)) (bits : Bits) :
    earlyStartTerm ovs bits = (ovs.flatten.map (fun x => ((List.range x.var.nvals).map (fun (i : Nat) =>
      (if i = 0 then (0 : Rat) else 1 / ((zNat ovs : Nat) : Rat) * (i : Rat)) * valueTerm x.var bits i)).sum)).sum := by
  refine congrArg List.sum (List.map_congr_left fun x _ => congrArg List.sum (List.map_congr_left fun i _ => ?_))
  split
  · exact (Rat.zero_mul _).symm
  · rfl

theorem earlyStartTerm_decoded (ovs : List (List OpVar)) (bits : Bits) (hd : AllDecoded ovs bits) :
    earlyStartTerm ovs bits = (1 / ((zNat ovs : Nat) : Rat)) * ((idxSum ovs bits : Nat) : Rat) := by
  rw [earlyStartTerm_eq, idxSum, natCast_sum, ← sum_map_mul_left]
  refine congrArg List.sum (List.map_congr_left fun x hx => ?_)
  obtain ⟨k, hk⟩ := hd x hx
  rw [range_sum_decoded hk, startOf_decoded hk, Nat.add_sub_cancel_left]
  split
  · rename_i h0; rw [h0]; exact (Rat.mul_zero _).symm
  · rfl

theorem idxSum_le (ovs : List (List OpVar)) (bits : Bits) (hd : AllDecoded ovs bits) : idxSum ovs bits ≤ zNat ovs := by
  unfold idxSum zNat
  rw [← sumN_eq_sum_map, ← sumN_eq_sum_map]
  refine sumN_le _ _ _ (fun x hx => ?_)
  obtain ⟨k, hk⟩ := hd x hx
  rw [startOf_decoded hk]
  have := hk.hk; have := hk.hn
  omega

theorem earlyStartTerm_bounds (ovs : List (List OpVar)) (bits : Bits) (hd : AllDecoded ovs bits) :
    0 ≤ earlyStartTerm ovs bits ∧ earlyStartTerm ovs bits ≤ 1 := by
  rw [earlyStartTerm_decoded ovs bits hd]
  exact ratio_bounds (idxSum_le ovs bits hd)

/-- the weights `i / z` (0 for the first value) grow with the index -/
theorem earlyStartTerm_nonneg (ovs : List (List OpVar)) (bits : Bits)
    (hn : ∀ x ∈ ovs.flatten, x.var.nvals = x.var.nq + 1) : 0 ≤ earlyStartTerm ovs bits := by
  rw [earlyStartTerm_eq]
  have hz := one_div_natCast_nonneg (zNat ovs)
  apply sum_nonneg_of_forall
  intro x hx
  refine Rat.le_trans (by simp) (range_sum_ge x.var bits (hn x hx) _ (fun k _ => ?_))
  rw [if_neg (Nat.succ_ne_zero k)]
  split
  · exact Rat.mul_nonneg hz Rat.natCast_nonneg
  · exact Rat.mul_le_mul_of_nonneg_left (Rat.natCast_le_natCast.mpr (Nat.le_succ k)) hz

end QVerif.Encoder
