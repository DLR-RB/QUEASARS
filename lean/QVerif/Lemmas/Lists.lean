/-! List facts that are about no particular model and that core does not have. -/
namespace QVerif

theorem flatMap_congr {α β} {l : List α} {f g : α → List β} (h : ∀ a ∈ l, f a = g a) : l.flatMap f = l.flatMap g := by
  rw [List.flatMap_def, List.map_congr_left h, ← List.flatMap_def]

theorem getD_set {α} (l : List α) (t u : Nat) (x d : α) (h : t < l.length) :
    (l.set t x).getD u d = if u = t then x else l.getD u d := by
  by_cases hu : u = t
  · subst hu; simp [h]
  · simp [hu, List.getD_eq_getElem?_getD, List.getElem?_set_ne (Ne.symm hu)]

theorem pairwise_snoc {α} {R : α → α → Prop} {l : List α} (h : l.Pairwise R) {a : α} (ha : ∀ b ∈ l, R b a) :
    (l ++ [a]).Pairwise R :=
  List.pairwise_append.mpr ⟨h, List.pairwise_singleton _ _, fun b hb _ hc => List.mem_singleton.mp hc ▸ ha b hb⟩

theorem nodup_map_of_inj {α β} (f : α → β) (hf : ∀ a b, f a = f b → a = b) (l : List α) (h : l.Nodup) : (l.map f).Nodup :=
  List.Pairwise.map f (fun a b hab e => hab (hf a b e)) h

/-- Python's `sorted(l, key=…)` as `mergeSort` by a decided total preorder -/
theorem pairwise_mergeSort_decide {α} {r : α → α → Prop} [DecidableRel r] (trans : ∀ a b c, r a b → r b c → r a c)
    (total : ∀ a b, r a b ∨ r b a) (l : List α) : (l.mergeSort (fun a b => decide (r a b))).Pairwise r :=
  (List.pairwise_mergeSort (le := fun a b => decide (r a b))
    (fun a b c h₁ h₂ => decide_eq_true (trans a b c (of_decide_eq_true h₁) (of_decide_eq_true h₂)))
    (fun a b => by simpa using total a b) l).imp of_decide_eq_true

theorem sum_split (l : List Nat) (i : Nat) (hi : i < l.length) :
    (l.take i).sum + l[i] + (l.drop (i + 1)).sum = l.sum := by
  have h1 : l = l.take i ++ l[i] :: l.drop (i + 1) := by
    rw [List.getElem_cons_drop hi, List.take_append_drop]
  conv => rhs; rw [h1]
  simp only [List.sum_append, List.sum_cons]
  omega

theorem sum_set (l : List Nat) {i : Nat} (hi : i < l.length) (a : Nat) : (l.set i a).sum + l[i] = l.sum + a := by
  have := sum_split l i hi
  rw [List.set_eq_take_append_cons_drop, if_pos hi]
  simp only [List.sum_append, List.sum_cons]
  omega

theorem lookup_eq_some_iff_mem {β} : ∀ {L : List (Nat × β)}, (∀ e ∈ L, ∀ e' ∈ L, e.1 = e'.1 → e = e') →
    ∀ (i : Nat) (r : β), L.lookup i = some r ↔ (i, r) ∈ L
  | [], _, _, _ => by simp
  | (k, v) :: L, hu, i, r => by
      have ih := lookup_eq_some_iff_mem (L := L)
        (fun e he e' he' => hu e (List.mem_cons_of_mem _ he) e' (List.mem_cons_of_mem _ he')) i r
      rw [List.lookup_cons, List.mem_cons]
      by_cases hik : i = k
      · subst hik
        simp only [beq_self_eq_true, Option.some.injEq, Prod.mk.injEq, true_and]
        constructor
        · exact fun h => Or.inl h.symm
        · rintro (h | h)
          · exact h.symm
          · exact (Prod.mk.inj (hu (i, r) (List.mem_cons_of_mem _ h) (i, v) List.mem_cons_self rfl)).2.symm
      · have hne : (i == k) = false := by simpa using hik
        simp only [hne, Prod.mk.injEq, hik, false_and, false_or]
        exact ih

theorem lookup_congr {β} {L L' : List (Nat × β)} (h : ∀ e, e ∈ L ↔ e ∈ L')
    (hu : ∀ e ∈ L', ∀ e' ∈ L', e.1 = e'.1 → e = e') (i : Nat) : L.lookup i = L'.lookup i :=
  Option.ext fun r => by
    rw [lookup_eq_some_iff_mem (fun e he e' he' => hu e ((h e).mp he) e' ((h e').mp he')), lookup_eq_some_iff_mem hu, h]

end QVerif
