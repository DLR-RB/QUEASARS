import QVerif.Lemmas.RunnerStep
import QVerif.Lemmas.Lists
namespace Runner

/-! What a step of the runner model does to the thread list, and what follows from that alone: the accessors `St.get`/`St.set`, classes of
threads and their counts, the frame `Upd` of a step with the update lemmas for locks, counters and waiter queues, and the guard `Ready` of a
thread's next operation. Nothing here needs an invariant. -/

open QVerif (getD_set)

theorem get_set (s : St) (t u : Nat) (x : TS) (h : t < s.th.length) :
    (s.set t x).get u = if u = t then x else s.get u :=
  getD_set s.th t u x {} h

theorem get_default (s : St) (t : Nat) (h : s.th.length ≤ t) : s.get t = {} := by
  simp [St.get, List.getD_eq_getElem?_getD, List.getElem?_eq_none h]

theorem get_eq_getElem (s : St) (t : Nat) (h : t < s.th.length) : s.get t = s.th[t] := by
  simp [St.get, List.getD_eq_getElem?_getD, h]

theorem get_of_mem {s : St} {x : TS} (h : x ∈ s.th) : ∃ i, i < s.th.length ∧ s.get i = x :=
  let ⟨i, hi, e⟩ := List.getElem_of_mem h; ⟨i, hi, (get_eq_getElem s i hi).trans e⟩

theorem countP_set_add {p : TS → Bool} {l : List TS} {i : Nat} {a : TS} (h : i < l.length) :
    (l.set i a).countP p + (if p l[i] then 1 else 0) = l.countP p + (if p a then 1 else 0) := by
  rw [List.countP_set h]
  by_cases hp : p l[i] = true
  · have : 0 < l.countP p := List.countP_pos_iff.mpr ⟨l[i], List.getElem_mem h, hp⟩
    simp [hp]; omega
  · simp [hp]

theorem get_init (th : List TS) (h : ∀ x ∈ th, x.loc = .idle) (t : Nat) : (St.get { th := th } t).loc = .idle := by
  simp only [St.get, List.getD_eq_getElem?_getD]
  cases ht : th[t]? with
  | none => rfl
  | some x => exact h x (List.mem_of_getElem? ht)

-- `p {} = false`: threads that do not exist are in no class

theorem countP_pos_of_get (s : St) (p : TS → Bool) (hd : p {} = false) (u : Nat) (h : p (s.get u) = true) :
    0 < s.th.countP p := by
  by_cases hu : u < s.th.length
  · rw [List.countP_pos_iff]
    exact ⟨s.th[u], List.getElem_mem hu, by simpa [get_eq_getElem s u hu] using h⟩
  · rw [get_default s u (by omega)] at h
    simp [hd] at h

theorem get_of_countP_pos (s : St) (p : TS → Bool) (h : 0 < s.th.countP p) : ∃ w, w < s.th.length ∧ p (s.get w) = true :=
  let ⟨_, hx, hp⟩ := List.countP_pos_iff.mp h
  let ⟨w, hw, e⟩ := get_of_mem hx
  ⟨w, hw, e ▸ hp⟩

theorem countP_zero_get (s : St) (p : TS → Bool) (hd : p {} = false) (h0 : s.th.countP p = 0) (u : Nat) :
    p (s.get u) = false :=
  Bool.eq_false_iff.mpr fun hp => by have := countP_pos_of_get s p hd u hp; omega

theorem countP_two (p : TS → Bool) (hd : p {} = false) (s : St) (a b : Nat) (hab : a ≠ b)
    (ha : p (s.get a) = true) (hb : p (s.get b) = true) : 2 ≤ s.th.countP p := by
  have hal : a < s.th.length := by
    by_cases hh : a < s.th.length
    · exact hh
    · rw [get_default s a (by omega)] at ha; simp [hd] at ha
  -- blank out `a`: the count drops by one, and `b` is still counted
  have h1 : (s.th.set a {}).countP p + 1 = s.th.countP p := by
    have := @countP_set_add p s.th a {} hal
    rw [← get_eq_getElem s a hal, ha] at this
    simpa [hd] using this
  have h2 : 0 < (s.th.set a {}).countP p := by
    have : p ((St.set s a {}).get b) = true := by
      rw [get_set s a b {} hal]; simp [Ne.symm hab, hb]
    exact countP_pos_of_get (s.set a {}) p hd b this
  omega

theorem countP_eq_zero_of_get (s : St) (p : TS → Bool) (h : ∀ u, p (s.get u) = false) : s.th.countP p = 0 :=
  List.countP_eq_zero.mpr fun x hx => by
    obtain ⟨i, _, rfl⟩ := get_of_mem hx
    rw [h i]; exact Bool.false_ne_true

/-- For a constructor of `Step`, `⟨hlt, rfl⟩ : Upd s s' t _` finds `x'` only once `s'` is known: a lemma that takes an `Upd` mentions `s'`
    in its conclusion and is applied to the goal itself, not under `.symm` or `.of_eq` -/
structure Upd (s s' : St) (t : Nat) (x' : TS) : Prop where
  lt : t < s.th.length
  th : s'.th = s.th.set t x'

section upd
variable {s s' : St} {t u : Nat} {x' : TS}

theorem Upd.get (h : Upd s s' t x') (u : Nat) : s'.get u = if u = t then x' else s.get u := by
  simp only [St.get, h.th, getD_set _ _ _ _ _ h.lt]

theorem Upd.get_self (h : Upd s s' t x') : s'.get t = x' := by rw [h.get, if_pos rfl]

theorem Upd.get_ne (h : Upd s s' t x') {u : Nat} (hu : u ≠ t) : s'.get u = s.get u := by rw [h.get, if_neg hu]

theorem get_with (E V icw ecw tc ec blen g batch result exn flog) (u : Nat) :
    St.get ⟨E, V, icw, ecw, tc, ec, blen, g, batch, result, exn, flog, s.th⟩ u = s.get u := rfl

theorem Upd.forall {P : Nat → TS → Prop} (hu : Upd s s' t x') (ht : P t x') (ho : ∀ u, u ≠ t → P u (s.get u)) :
    ∀ u, P u (s'.get u) := by
  intro u
  by_cases hut : u = t
  · subst hut; rw [hu.get_self]; exact ht
  · rw [hu.get_ne hut]; exact ho u hut

theorem exists_update (Q : TS → Bool) (th : List TS) (t : Nat) (x : TS) (hlt : t < th.length) :
    (∃ w, Q ((th.set t x).getD w {}) = true) ↔ (Q x = true ∨ ∃ w, w ≠ t ∧ Q (th.getD w {}) = true) := by
  constructor
  · rintro ⟨w, hw⟩
    rw [getD_set _ _ _ _ _ hlt] at hw
    by_cases hwt : w = t
    · left; simpa [hwt] using hw
    · right; exact ⟨w, hwt, by simpa [hwt] using hw⟩
  · rintro (h | ⟨w, hwt, hw⟩)
    · exact ⟨t, by rw [getD_set _ _ _ _ _ hlt]; simpa using h⟩
    · exact ⟨w, by rw [getD_set _ _ _ _ _ hlt]; simpa [hwt] using hw⟩

theorem Upd.exists (hu : Upd s s' t x') (Q : TS → Bool) :
    (∃ w, Q (s'.get w) = true) ↔ (Q x' = true ∨ ∃ w, w ≠ t ∧ Q (s.get w) = true) := by
  have := exists_update Q s.th t x' hu.lt
  rw [← hu.th] at this
  exact this

theorem exists_split (Q : TS → Bool) (th : List TS) (t : Nat) :
    (∃ w, Q (th.getD w {}) = true) ↔ (Q (th.getD t {}) = true ∨ ∃ w, w ≠ t ∧ Q (th.getD w {}) = true) := by
  constructor
  · rintro ⟨w, hw⟩
    by_cases hwt : w = t
    · left; simpa [hwt] using hw
    · right; exact ⟨w, hwt, hw⟩
  · rintro (h | ⟨w, _, hw⟩)
    · exact ⟨t, h⟩
    · exact ⟨w, hw⟩

theorem lock_keep {p : TS → Bool} {e : Option Nat} (hu : Upd s s' t x') (h : ∀ u, e = some u ↔ p (s.get u) = true)
    (hp : p x' = p (s.get t)) : ∀ u, e = some u ↔ p (s'.get u) = true :=
  hu.forall (P := fun u y => e = some u ↔ p y = true) (hp ▸ h t) (fun u _ => h u)

theorem lock_acquire {p : TS → Bool} {e : Option Nat} (hu : Upd s s' t x') (h : ∀ u, e = some u ↔ p (s.get u) = true)
    (he : e = none) (hp : p x' = true) : ∀ u, some t = some u ↔ p (s'.get u) = true := by
  refine hu.forall (P := fun u y => some t = some u ↔ p y = true) (by simp [hp]) (fun u hut => ?_)
  have := h u
  simp only [he, reduceCtorEq, false_iff] at this
  simp [this, Ne.symm hut]

theorem lock_unique {p : TS → Bool} {e : Option Nat} (h : ∀ u, e = some u ↔ p (s.get u) = true) {a b : Nat}
    (ha : p (s.get a) = true) (hb : p (s.get b) = true) : a = b :=
  Option.some.inj (((h a).mpr ha).symm.trans ((h b).mpr hb))

theorem lock_release {p : TS → Bool} {e : Option Nat} (hu : Upd s s' t x') (h : ∀ u, e = some u ↔ p (s.get u) = true)
    (ht : p (s.get t) = true) (hp : p x' = false) : ∀ u, none = some u ↔ p (s'.get u) = true := by
  refine hu.forall (P := fun u y => none = some u ↔ p y = true) (by simp [hp]) (fun u hut => ?_)
  simp only [reduceCtorEq, false_iff]
  exact fun hpu => hut (lock_unique h hpu ht)

theorem lock_free {p : TS → Bool} {e : Option Nat} (h : ∀ u, e = some u ↔ p (s.get u) = true) :
    e = none ↔ ∀ u, p (s.get u) = false := by
  constructor
  · rintro rfl u
    exact Bool.eq_false_iff.mpr fun hp => nomatch (h u).mpr hp
  · intro hn
    cases he : e with
    | none => rfl
    | some u => exact absurd ((h u).mp he) (by simp [hn u])

/-- a counter `n = #{threads in class p} + k` follows the acting thread into and out of the class -/
theorem count_upd {p : TS → Bool} {n n' k k' : Nat} (hu : Upd s s' t x') (h : n = s.th.countP p + k)
    (hc : n' + (if p (s.get t) then 1 else 0) + k = n + (if p x' then 1 else 0) + k') : n' = s'.th.countP p + k' := by
  have := @countP_set_add p s.th t x' hu.lt
  rw [← get_eq_getElem s t hu.lt] at this
  rw [hu.th]; omega

theorem queue_upd {q q' : List Nat} (C : Loc → Prop) (hu : Upd s s' t x')
    (h : ∀ u, u ∈ q → C (s.get u).loc) (hsub : ∀ u, u ≠ t → u ∈ q' → u ∈ q) (ht : t ∈ q' → C x'.loc) :
    ∀ u, u ∈ q' → C (s'.get u).loc :=
  hu.forall (P := fun u y => u ∈ q' → C y.loc) ht (fun u hut hq => h u (hsub u hut hq))

theorem nodup_push {q : List Nat} (hn : q.Nodup) (ht : t ∉ q) : (q ++ [t]).Nodup :=
  QVerif.pairwise_snoc hn fun _ hb e => ht (e ▸ hb)

theorem mem_of_mem_push {q : List Nat} {u : Nat} (hut : u ≠ t) (hm : u ∈ q ++ [t]) : u ∈ q :=
  (List.mem_append.mp hm).resolve_right fun e => hut (List.mem_singleton.mp e)

theorem Upd.len (h : Upd s s' t x') : s'.th.length = s.th.length := by rw [h.th, List.length_set]

theorem Step.len (h : Step s s') : s'.th.length = s.th.length := by
  cases h <;> rename_i t hlt hloc hg <;> exact Upd.len ⟨hlt, rfl⟩

theorem lt_of_loc (h : (s.get t).loc ≠ .idle) : t < s.th.length :=
  Nat.lt_of_not_le fun hle => h (by rw [get_default s t hle])

/-- a step enqueues nobody but the acting thread -/
theorem Step.icw_mono (h : Step s s') (hu : s'.get u = s.get u) : u ∈ s'.icw → u ∈ s.icw := by
  cases h <;> rename_i t hlt hloc hg
  case c1 | g1 =>
    refine mem_of_mem_push fun e => ?_
    subst e
    have := congrArg TS.loc (hu.symm.trans (Upd.get_self ⟨hlt, rfl⟩))
    rw [hloc] at this
    cases this
  case d1 | g3 => exact List.mem_of_mem_tail
  case g2timeout => exact List.mem_of_mem_erase
  all_goals exact id

theorem Step.ecw_mono (h : Step s s') (hu : s'.get u = s.get u) : u ∈ s'.ecw → u ∈ s.ecw := by
  cases h <;> rename_i t hlt hloc hg
  case a8 =>
    refine mem_of_mem_push fun e => ?_
    subst e
    have := congrArg TS.loc (hu.symm.trans (Upd.get_self ⟨hlt, rfl⟩))
    rw [hloc] at this
    cases this
  case a4 | g7 => exact fun h => nomatch h
  case a9timeout => exact List.mem_of_mem_erase
  all_goals exact id

/-- the guard of thread `t`'s next operation; it can fail only at the eight locations where a thread can be blocked
    (soundness: `Ready.acts`) -/
def Ready (s : St) (t : Nat) : Prop :=
  match (s.get t).loc with
  | .idle => (s.get t).todo ≠ []
  | .a0 | .b2 => s.E = none
  | .b1 | .d0 | .g4 => s.V = none
  | .c2 => t ∉ s.icw
  | .r => (s.get t).loc_res.isSome = true
  | _ => True

/-- a thread the list does not have is idle with nothing to do -/
theorem Ready.lt (h : Ready s t) : t < s.th.length :=
  Nat.lt_of_not_le fun hle => by simp [Ready, get_default s t hle] at h

theorem Ready.acts (h : Ready s t) : ∃ s' x', Step s s' ∧ Upd s s' t x' ∧ x'.loc ≠ (s.get t).loc := by
  have hlt := h.lt
  have go {s' : St} {x' : TS} {l : Loc} (hs : Step s s') (hu : Upd s s' t x') (hne : x'.loc ≠ l) :
      ∃ s' x', Step s s' ∧ Upd s s' t x' ∧ x'.loc ≠ l := ⟨_, _, hs, hu, hne⟩
  unfold Ready at h
  cases hl : (s.get t).loc <;> simp only [hl] at h
  case idle => exact go (.start t hlt hl h) ⟨hlt, rfl⟩ nofun
  case a0 => exact go (.a0 t hlt hl h) ⟨hlt, rfl⟩ nofun
  case a1 =>
    by_cases hV : s.V = none
    · exact go (.a1ok t hlt hl hV) ⟨hlt, rfl⟩ nofun
    · exact go (.a1fail t hlt hl hV) ⟨hlt, rfl⟩ nofun
  case a2 => exact go (.a2 t hlt hl trivial) ⟨hlt, rfl⟩ nofun
  case a3 => exact go (.a3 t hlt hl trivial) ⟨hlt, rfl⟩ nofun
  case a4 => exact go (.a4 t hlt hl trivial) ⟨hlt, rfl⟩ nofun
  case a7 => exact go (.a7 t hlt hl trivial) ⟨hlt, rfl⟩ nofun
  case a8 => exact go (.a8 t hlt hl trivial) ⟨hlt, rfl⟩ nofun
  case a9 =>
    by_cases hw : t ∈ s.ecw
    · exact go (.a9timeout t hlt hl hw) ⟨hlt, rfl⟩ nofun
    · exact go (.a9 t hlt hl hw) ⟨hlt, rfl⟩ nofun
  case b0 => exact go (.b0 t hlt hl trivial) ⟨hlt, rfl⟩ nofun
  case b1 =>
    by_cases he : s.ec + 1 = s.tc
    · exact go (.b1exec t hlt hl ⟨h, he⟩) ⟨hlt, rfl⟩ nofun
    · exact go (.b1wait t hlt hl ⟨h, he⟩) ⟨hlt, rfl⟩ nofun
  case b2 => exact go (.b2 t hlt hl h) ⟨hlt, rfl⟩ nofun
  case b3 => exact go (.b3ok t hlt hl trivial) ⟨hlt, rfl⟩ nofun
  case b4 => exact go (.b4 t hlt hl trivial) ⟨hlt, rfl⟩ nofun
  case c0 => exact go (.c0 t hlt hl trivial) ⟨hlt, rfl⟩ nofun
  case c1 => exact go (.c1 t hlt hl trivial) ⟨hlt, rfl⟩ nofun
  case c2 => exact go (.c2 t hlt hl h) ⟨hlt, rfl⟩ nofun
  case d0 => exact go (.d0 t hlt hl h) ⟨hlt, rfl⟩ nofun
  case d1 => exact go (.d1 t hlt hl trivial) ⟨hlt, rfl⟩ nofun
  case d2 =>
    by_cases he : (s.get t).exec = true
    · exact go (.d2exec t hlt hl he) ⟨hlt, rfl⟩ nofun
    · exact go (.d2plain t hlt hl he) ⟨hlt, rfl⟩ nofun
  case g0 =>
    by_cases hp : s.tc > 0
    · exact go (.g0wait t hlt hl hp) ⟨hlt, rfl⟩ nofun
    · exact go (.g0done t hlt hl hp) ⟨hlt, rfl⟩ nofun
  case g1 => exact go (.g1 t hlt hl trivial) ⟨hlt, rfl⟩ nofun
  case g2 =>
    by_cases hw : t ∈ s.icw
    · exact go (.g2timeout t hlt hl hw) ⟨hlt, rfl⟩ nofun
    · exact go (.g2 t hlt hl hw) ⟨hlt, rfl⟩ nofun
  case g3 => exact go (.g3 t hlt hl trivial) ⟨hlt, rfl⟩ nofun
  case g4 => exact go (.g4 t hlt hl h) ⟨hlt, rfl⟩ nofun
  case g5 => exact go (.g5 t hlt hl trivial) ⟨hlt, rfl⟩ nofun
  case g6 => exact go (.g6 t hlt hl trivial) ⟨hlt, rfl⟩ nofun
  case g7 => exact go (.g7 t hlt hl trivial) ⟨hlt, rfl⟩ nofun
  case r => exact go (.ret t hlt hl h) ⟨hlt, rfl⟩ nofun

end upd

end Runner
