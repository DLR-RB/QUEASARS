import QVerif.Lemmas.DoubleCount

/-! The sums of the encoder proofs; no definition of the encoder model occurs.  `sumTo f n = Σ_{k < n} f k` with telescoping and Abel summation for an arbitrary
sequence, sums of rational-valued maps over lists, and a few facts on sums and maxima of natural numbers. -/

namespace QVerif.Encoder
open QVerif.DoubleCount

theorem rat_sub_zero (a : Rat) : a - 0 = a := by rw [Rat.sub_eq_add_neg, Rat.neg_zero, Rat.add_zero]

def sumTo (f : Nat → Rat) : Nat → Rat
  | 0 => 0
  | n + 1 => sumTo f n + f n

theorem sum_range_eq_sumTo (f : Nat → Rat) (n : Nat) : ((List.range n).map f).sum = sumTo f n := by
  induction n with
  | zero => rfl
  | succ k ih =>
    rw [List.range_succ, List.map_append, List.sum_append, ih]
    simp only [List.map_cons, List.map_nil, List.sum_cons, List.sum_nil, sumTo]
    grind

theorem sumTo_congr {f g : Nat → Rat} (n : Nat) (h : ∀ k, k < n → f k = g k) : sumTo f n = sumTo g n := by
  induction n with
  | zero => rfl
  | succ k ih => simp only [sumTo]; rw [ih (fun j hj => h j (by omega)), h k (by omega)]

theorem sumTo_ite_eq (h : Nat → Rat) (k : Nat) : ∀ n, sumTo (fun i => if i = k then h i else 0) n = if k < n then h k else 0
  | 0 => rfl
  | n + 1 => by
    rw [sumTo, sumTo_ite_eq h k n]
    rcases Nat.lt_trichotomy k n with hkn | hkn | hkn
    · rw [if_pos hkn, if_neg (by omega), if_pos (by omega)]; exact Rat.add_zero _
    · subst hkn; rw [if_neg (by omega), if_pos rfl, if_pos (by omega)]; exact Rat.zero_add _
    · rw [if_neg (by omega), if_neg (by omega), if_neg (by omega)]; exact Rat.add_zero _

theorem sumTo_telescope (u : Nat → Rat) (n : Nat) : sumTo (fun k => u k - u (k + 1)) n = u 0 - u n := by
  induction n with
  | zero => simp only [sumTo]; grind
  | succ m ih => simp only [sumTo, ih]; grind

/-- Abel summation: `Σ_{k ≤ m} w k (u k − u (k+1)) = w 0 u 0 − w m u (m+1) + Σ_{1 ≤ k ≤ m} (w k − w (k−1)) u k`, and the last sum is `≥ 0` -/
theorem sumTo_abel (u w : Nat → Rat) (m : Nat) (hu : ∀ k, k ≤ m → 0 ≤ u k) (hw : ∀ k, k < m → w k ≤ w (k + 1)) :
    w 0 * u 0 - w m * u (m + 1) ≤ sumTo (fun k => w k * (u k - u (k + 1))) (m + 1) := by
  induction m with
  | zero => simp only [sumTo]; grind
  | succ j ih =>
    have h1 := ih (fun k hk => hu k (by omega)) (fun k hk => hw k (by omega))
    have h2 := Rat.mul_le_mul_of_nonneg_right (hw j (by omega)) (hu (j + 1) (by omega))
    simp only [sumTo] at h1 ⊢
    grind

theorem sum_map_add {α} (l : List α) (f g : α → Rat) : (l.map (fun x => f x + g x)).sum = (l.map f).sum + (l.map g).sum := by
  induction l with
  | nil => simp [Rat.add_zero]
  | cons a t ih => simp only [List.map_cons, List.sum_cons, ih]; grind

theorem sum_map_mul_left (c : Rat) {α} (l : List α) (f : α → Rat) : (l.map (fun x => c * f x)).sum = c * (l.map f).sum := by
  induction l with
  | nil => simp
  | cons a t ih => simp only [List.map_cons, List.sum_cons, ih]; grind

theorem sum_map_flatMap {α β} (l : List α) (g : α → List β) (F : β → Rat) :
    ((l.flatMap g).map F).sum = (l.map (fun x => ((g x).map F).sum)).sum := by
  induction l with
  | nil => rfl
  | cons a t ih => simp only [List.flatMap_cons, List.map_append, List.sum_append, List.map_cons, List.sum_cons, ih]

theorem sum_map_filterMap_ite {α β} (l : List α) (c : α → Prop) [DecidablePred c] (p : α → β) (F : β → Rat) :
    ((l.filterMap (fun y => if c y then some (p y) else none)).map F).sum =
      (l.map (fun y => if c y then F (p y) else 0)).sum := by
  induction l with
  | nil => rfl
  | cons a t ih =>
    simp only [List.filterMap_cons, List.map_cons, List.sum_cons]
    by_cases h : c a
    · simp only [h, ↓reduceIte, List.map_cons, List.sum_cons, ih]
    · simp only [h, ↓reduceIte, ih]; grind

theorem sum_indicator_eq_count {α} (l : List α) (p : α → Prop) [DecidablePred p] :
    (l.map (fun t => if p t then (1 : Rat) else 0)).sum = ((l.filter (fun t => decide (p t))).length : Rat) := by
  induction l with
  | nil => simp
  | cons a t ih =>
    simp only [List.map_cons, List.sum_cons, List.filter_cons, ih]
    by_cases h : p a
    · simp only [h, ↓reduceIte, decide_true, List.length_cons]; push_cast; grind
    · simp only [h, ↓reduceIte, decide_false]; grind

theorem sum_map_le {α} (l : List α) (f g : α → Rat) (h : ∀ a ∈ l, f a ≤ g a) : (l.map f).sum ≤ (l.map g).sum := by
  induction l with
  | nil => exact Rat.le_refl
  | cons a t ih =>
    simp only [List.map_cons, List.sum_cons]
    have := h a (by simp)
    have := ih (fun b hb => h b (List.mem_cons_of_mem _ hb))
    grind

theorem sum_map_zero {α} (l : List α) : (l.map (fun _ => (0 : Rat))).sum = 0 := by
  simpa only [Rat.zero_mul] using sum_map_mul_left 0 l (fun _ => 0)

theorem sum_nonneg_of_forall {α} (l : List α) (f : α → Rat) (h : ∀ a ∈ l, 0 ≤ f a) : 0 ≤ (l.map f).sum :=
  sum_map_zero l ▸ sum_map_le l (fun _ => 0) f h

theorem sumTo_nonneg {f : Nat → Rat} (n : Nat) (h : ∀ k, k < n → 0 ≤ f k) : 0 ≤ sumTo f n :=
  sum_range_eq_sumTo f n ▸ sum_nonneg_of_forall _ f fun k hk => h k (List.mem_range.mp hk)

theorem sumTo_zero (n : Nat) : sumTo (fun _ => 0) n = 0 := by
  rw [← sum_range_eq_sumTo, sum_map_zero]

theorem sumTo_mul_left (c : Rat) (f : Nat → Rat) (n : Nat) : sumTo (fun i => c * f i) n = c * sumTo f n := by
  rw [← sum_range_eq_sumTo, sum_map_mul_left, sum_range_eq_sumTo]

theorem natCast_sum {α} (l : List α) (f : α → Nat) : (((l.map f).sum : Nat) : Rat) = (l.map (fun x => ((f x : Nat) : Rat))).sum := by
  induction l with
  | nil => simp
  | cons a t ih => simp only [List.map_cons, List.sum_cons, Rat.natCast_add, ih]

theorem neg_sumN_le_sum {α : Type} (c : α → Nat) (f : α → Rat) (l : List α) (h : ∀ x ∈ l, -((c x : Nat) : Rat) ≤ f x) :
    -((sumN c l : Nat) : Rat) ≤ (l.map f).sum := by
  -- `-c x` written `-1 * c x`, the shape `sum_map_mul_left` sums
  have := sum_map_le l (fun x => -1 * ((c x : Nat) : Rat)) f (fun x hx => by rw [Rat.neg_mul, Rat.one_mul]; exact h x hx)
  rwa [sum_map_mul_left, ← natCast_sum, ← sumN_eq_sum_map, Rat.neg_mul, Rat.one_mul] at this

theorem le_sum_of_mem {α} (f : α → Nat) : ∀ (l : List α) (a : α), a ∈ l → f a ≤ (l.map f).sum
  | b :: t, a, h => by
      simp only [List.map_cons, List.sum_cons]
      rcases List.mem_cons.mp h with rfl | h
      · omega
      · have := le_sum_of_mem f t a h; omega

theorem foldl_max_spec (l : List Nat) (init : Nat) :
    (∀ x ∈ l, x ≤ l.foldl max init) ∧ init ≤ l.foldl max init ∧ (l.foldl max init = init ∨ l.foldl max init ∈ l) :=
  let ⟨hm, hle⟩ := List.max?_eq_some_iff.mp (List.max?_cons' (x := init) (xs := l))
  ⟨fun x hx => hle x (List.mem_cons_of_mem _ hx), hle init List.mem_cons_self, List.mem_cons.mp hm⟩

end QVerif.Encoder
