import QVerif.Model.Pipeline

/-! Lemmas for the layout invariance (C03).

`applyLayout` and `place` scatter a Pauli string and a bit list to the same positions, and `stringVal`, `phase`, `flip` and
equality of bit lists are pointwise combinations of two lists, which commute with `scatter` (`zipWith_scatter`: all `flip` needs);
the other three fold the combination with a commutative operation, and such a fold is blind to the layout (`foldr_zipWith_scatter`). -/

namespace QVerif.Pipeline

theorem zipWith_set {α β γ} (f : α → β → γ) : ∀ (l : List α) (l' : List β) (k : Nat) (x : α) (y : β),
    List.zipWith f (l.set k x) (l'.set k y) = (List.zipWith f l l').set k (f x y)
  | [], _, _, _, _ => by simp
  | _ :: _, [], _, _, _ => by simp
  | _ :: _, _ :: _, 0, _, _ => by simp
  | _ :: l, _ :: l', k + 1, x, y => by simp [zipWith_set f l l' k]

theorem foldr_and_zipWith_beq : ∀ (l l' : List Bool), l.length = l'.length →
    ((List.zipWith (· == ·) l l').foldr (· && ·) true = true ↔ l = l')
  | [], [], _ => by simp
  | a :: l, b :: l', h => by simp [foldr_and_zipWith_beq l l' (by simpa using h)]

section Fold

variable {γ : Type} {op : γ → γ → γ} {e : γ}

theorem foldr_set_neutral (hlc : ∀ a b c, op a (op b c) = op b (op a c)) (he : ∀ a, op e a = a) (v : γ) :
    ∀ (acc : List γ) (k : Nat), acc[k]? = some e → (acc.set k v).foldr op e = op v (acc.foldr op e)
  | a :: acc, 0, h => by
      simp only [List.getElem?_cons_zero, Option.some.injEq] at h
      simp only [List.set_cons_zero, List.foldr_cons, h, he]
  | a :: acc, k + 1, h => by
      simp only [List.set_cons_succ, List.foldr_cons, foldr_set_neutral hlc he v acc k h, hlc a v]

theorem foldr_replicate_neutral (he : ∀ a, op e a = a) : ∀ m : Nat, (List.replicate m e).foldr op e = e
  | 0 => rfl
  | m + 1 => by rw [List.replicate_succ, List.foldr_cons, foldr_replicate_neutral he m, he]

theorem scatter_length {α} : ∀ (xs : List α) (ks : List Nat) (acc : List α), (scatter xs ks acc).length = acc.length
  | [], _, _ => rfl
  | _ :: _, [], _ => rfl
  | x :: xs, k :: ks, acc => (scatter_length xs ks (acc.set k x)).trans List.length_set

theorem zipWith_scatter {α β γ} (f : α → β → γ) : ∀ (xs : List α) (ys : List β) (ks : List Nat) (acc : List α) (acc' : List β),
    xs.length = ys.length →
    List.zipWith f (scatter xs ks acc) (scatter ys ks acc') = scatter (List.zipWith f xs ys) ks (List.zipWith f acc acc')
  | [], [], _, _, _, _ => by simp [scatter]
  | _ :: _, _ :: _, [], _, _, _ => by simp [scatter]
  | x :: xs, y :: ys, k :: ks, acc, acc', h => by
      simp only [scatter, List.zipWith_cons_cons]
      rw [zipWith_scatter f xs ys ks _ _ (by simpa using h), zipWith_set]

theorem foldr_scatter (ha : ∀ a b c, op (op a b) c = op a (op b c)) (hc : ∀ a b, op a b = op b a) (he : ∀ a, op e a = a) :
    ∀ (vs : List γ) (ks : List Nat) (acc : List γ), vs.length = ks.length → ks.Nodup → (∀ k ∈ ks, acc[k]? = some e) →
      (scatter vs ks acc).foldr op e = op (vs.foldr op e) (acc.foldr op e)
  | [], _, acc, _, _, _ => by simp [scatter, he]
  | v :: vs, k :: ks, acc, h, hn, hI => by
      have hlc : ∀ a b c, op a (op b c) = op b (op a c) := fun a b c => by rw [← ha, hc a b, ha]
      have hnd := List.nodup_cons.mp hn
      have hI' : ∀ k' ∈ ks, (acc.set k v)[k']? = some e := fun k' hk' => by
        rw [List.getElem?_set_ne (fun h : k = k' => hnd.1 (h ▸ hk'))]
        exact hI k' (List.mem_cons_of_mem _ hk')
      simp only [scatter, List.foldr_cons]
      rw [foldr_scatter ha hc he vs ks _ (by simpa using h) hnd.2 hI',
        foldr_set_neutral hlc he v acc k (hI k List.mem_cons_self), hlc, ha]

theorem foldr_zipWith_scatter {α β} (ha : ∀ a b c, op (op a b) c = op a (op b c)) (hc : ∀ a b, op a b = op b a)
    (he : ∀ a, op e a = a) (f : α → β → γ) {a0 : α} {b0 : β} (hf : f a0 b0 = e) {xs : List α} {ys : List β} {ks : List Nat}
    {n m : Nat} (hl : LayoutOk ks n m) (hx : xs.length = n) (hy : ys.length = n) :
    (List.zipWith f (scatter xs ks (List.replicate m a0)) (scatter ys ks (List.replicate m b0))).foldr op e =
      (List.zipWith f xs ys).foldr op e := by
  rw [zipWith_scatter f _ _ _ _ _ (hx.trans hy.symm), List.zipWith_replicate', hf,
    foldr_scatter ha hc he _ ks _ (by simp [hx, hy, hl.len]) hl.nodup (fun k hk => by simp [hl.lt k hk]),
    foldr_replicate_neutral he, hc, he]

end Fold

theorem act1_I (b : Bool) : act1 .I b = (0, b) := rfl

theorem stringVal_eq : ∀ (L : List Pauli) (B : Bits), stringVal L B = (List.zipWith factor L B).prod
  | [], _ => by simp [stringVal]
  | _ :: _, [] => by simp [stringVal]
  | p :: L, b :: B => by simp [stringVal, stringVal_eq L B]

theorem phase_eq : ∀ (L : List Pauli) (B : Bits), phase L B = (List.zipWith (fun p b => (act1 p b).1) L B).sum
  | [], _ => by simp [phase]
  | _ :: _, [] => by simp [phase]
  | p :: L, b :: B => by simp [phase, phase_eq L B]

theorem flip_eq : ∀ (L : List Pauli) (B : Bits), L.length = B.length → flip L B = List.zipWith (fun p b => (act1 p b).2) L B
  | [], [], _ => rfl
  | p :: L, b :: B, h => by simp [flip, flip_eq L B (by simpa using h)]

theorem flip_length : ∀ (L : List Pauli) (B : Bits), (flip L B).length = B.length
  | [], _ => rfl
  | _ :: _, [] => rfl
  | _ :: L, _ :: B => congrArg (· + 1) (flip_length L B)

theorem flip_getElem?_I : ∀ (L : List Pauli) (B : Bits) (k : Nat), L.length = B.length → L[k]? = some .I → (flip L B)[k]? = B[k]? := by
  intro L B k hl h
  rw [flip_eq L B hl, List.getElem?_zipWith, h]
  cases B[k]? <;> rfl

theorem phase_layout (ps : List Pauli) (b : Bits) (final : List Nat) (n m : Nat) (hl : LayoutOk final n m)
    (hp : ps.length = n) (hb : b.length = n) : phase (applyLayout ps final m) (place b final m) = phase ps b := by
  rw [phase_eq, phase_eq]
  exact foldr_zipWith_scatter Nat.add_assoc Nat.add_comm Nat.zero_add _ rfl hl hp hb

theorem flip_layout (ps : List Pauli) (b : Bits) (final : List Nat) (m : Nat) (h : ps.length = b.length) :
    flip (applyLayout ps final m) (place b final m) = place (flip ps b) final m := by
  rw [flip_eq _ _ (by simp [applyLayout, place, scatter_length]), flip_eq ps b h]
  unfold applyLayout place
  rw [zipWith_scatter _ _ _ _ _ _ h, List.zipWith_replicate']
  rfl

/-- list equality is the `&&`-fold of `==`, so the same fact about `scatter` applies -/
theorem place_injective (final : List Nat) (n m : Nat) (hl : LayoutOk final n m) (b b' : Bits) (hb : b.length = n) (hb' : b'.length = n)
    (h : place b final m = place b' final m) : b = b' := by
  rw [← foldr_and_zipWith_beq b b' (hb.trans hb'.symm),
    ← foldr_zipWith_scatter Bool.and_assoc Bool.and_comm Bool.true_and (· == ·) (a0 := false) (b0 := false) rfl hl hb hb']
  exact (foldr_and_zipWith_beq _ _ (by simp [scatter_length])).mpr h

end QVerif.Pipeline
