import QVerif.Model.Genome
import QVerif.Lemmas.Except

/-!
* what a successful call of each operation returned (`…_eq_ok`): the guards it passed and the individual it built
  (equivalences for the deterministic operations; for the random ones only the direction that is used);
* the value tuple of an individual as the concatenation of its per-layer chunks (`layerValues`), read back from a tuple
  built out of chunks (`layerValues_flatten`) and from the concatenation of two individuals (`layerValues_append_*`).
-/

namespace QVerif.Genome

theorem isValid_iff (x : Indiv) : x.isValid = true ↔
    x.layers ≠ [] ∧ (∀ l ∈ x.layers, l.isValid = true ∧ l.nQubits = x.nQubits) ∧ x.values.length = totalParams x.layers := by
  unfold Indiv.isValid
  simp only [Bool.and_eq_true, Bool.not_eq_eq_eq_not, Bool.not_true, List.isEmpty_eq_false_iff, ne_eq, List.all_eq_true,
    beq_iff_eq, and_assoc]

theorem isValid_values_length {x : Indiv} (hv : x.isValid = true) : x.values.length = totalParams x.layers :=
  ((isValid_iff x).mp hv).2.2

theorem mkIndiv_eq_ok {n : Nat} {ls : List Layer} {vs : List Val} {y : Indiv} :
    mkIndiv n ls vs = .ok y ↔ y = ⟨n, ls, vs⟩ ∧ y.isValid = true := by
  unfold mkIndiv
  simp only [ok_or_raise_eq_ok]
  exact ⟨fun ⟨hv, e⟩ => e ▸ ⟨rfl, hv⟩, fun ⟨e, hv⟩ => e ▸ ⟨hv, rfl⟩⟩

theorem mkIndiv_eq_error {n : Nat} {ls : List Layer} {vs : List Val} {e : Err} (h : mkIndiv n ls vs = .error e) :
    e = .individualInvalid := by
  unfold mkIndiv at h
  simp only at h
  split at h
  · cases h
  · cases h; rfl

theorem mkLayer_eq_ok {n : Nat} {gates : List Gate} {l : Layer} :
    mkLayer n gates = .ok l ↔ l = ⟨n, gates⟩ ∧ l.isValid = true := by
  unfold mkLayer
  simp only [ok_or_raise_eq_ok]
  exact ⟨fun ⟨hv, e⟩ => e ▸ ⟨rfl, hv⟩, fun ⟨e, hv⟩ => e ▸ ⟨hv, rfl⟩⟩

theorem changeParameterValues_eq_ok {x y : Indiv} {vals : List Val} : changeParameterValues x vals = .ok y ↔
    vals.length = totalParams x.layers ∧ y = ⟨x.nQubits, x.layers, vals⟩ ∧ y.isValid = true := by
  unfold changeParameterValues
  rw [guard_eq_ok, Decidable.not_not, mkIndiv_eq_ok]

theorem changeLayerParameterValues_eq_ok {x y : Indiv} {layerId : Int} {vals : List Val} :
    changeLayerParameterValues x layerId vals = .ok y ↔
    vals.length = (x.layers.getD (normIdx layerId x.layers.length) default).nParams ∧
    y = ⟨x.nQubits, x.layers, ((List.range x.layers.length).map (fun j =>
      if j ≠ normIdx layerId x.layers.length then layerValues x j else vals)).flatten⟩ ∧ y.isValid = true := by
  unfold changeLayerParameterValues
  rw [guard_eq_ok, Decidable.not_not, mkIndiv_eq_ok]

theorem removeLayers_eq_ok {x y : Indiv} {k : Int} : removeLayers x k = .ok y ↔
    0 < k ∧ k < x.layers.length ∧
    y = ⟨x.nQubits, x.layers.take (x.layers.length - k.toNat),
      x.values.take (totalParams (x.layers.take (x.layers.length - k.toNat)))⟩ ∧ y.isValid = true := by
  unfold removeLayers
  rw [guard_eq_ok, guard_eq_ok, Decidable.not_not, Decidable.not_not, mkIndiv_eq_ok]

theorem randomLayer_eq_ok {n : Nat} {prev : Option Layer} {o o' : Oracle} {l : Layer}
    (h : randomLayer n prev o = .ok (l, o')) :
    ∃ g1 crq1 g2 crq2, markLoop prev (List.range n) o.coins ((List.range n).map Gate.id) [] = .ok (g1, crq1, o'.coins) ∧
      pairLoop prev o.pairs g1 crq1 = .ok (g2, crq2, o'.pairs) ∧
      l = ⟨n, finalStep prev g2 crq2⟩ ∧ l.isValid = true := by
  unfold randomLayer at h
  rw [guard_eq_ok, guard_eq_ok] at h
  obtain ⟨_, _, h⟩ := h
  split at h
  · cases h
  · rename_i g1 crq1 coins hm
    split at h
    · cases h
    · rename_i g2 crq2 pairs hp
      split at h
      · cases h
      · rename_i l' hk
        cases h
        exact ⟨g1, crq1, g2, crq2, hm, hp, mkLayer_eq_ok.mp hk⟩

theorem randomLayers_succ_eq_ok {n k : Nat} {prev : Option Layer} {o o'' : Oracle} {ls : List Layer}
    (h : randomLayers n (k + 1) prev o = .ok (ls, o'')) :
    ∃ l o' ls', randomLayer n prev o = .ok (l, o') ∧ randomLayers n k (some l) o' = .ok (ls', o'') ∧ ls = l :: ls' := by
  simp only [randomLayers] at h
  split at h
  · cases h
  · rename_i l o' hl
    split at h
    · cases h
    · rename_i ls' o2 hrec
      cases h
      exact ⟨l, o', ls', hl, hrec, rfl⟩

theorem randomLayers_length {n k : Nat} {prev : Option Layer} {o o' : Oracle} {ls : List Layer}
    (h : randomLayers n k prev o = .ok (ls, o')) : ls.length = k := by
  induction k generalizing prev o ls with
  | zero => simp only [randomLayers] at h; cases h; rfl
  | succ k ih =>
    obtain ⟨l, o1, ls', _, hrec, rfl⟩ := randomLayers_succ_eq_ok h
    rw [List.length_cons, ih hrec]

theorem addRandomLayers_eq_ok {x y : Indiv} {k : Int} {o : Oracle} {vals : Nat → List Val}
    (h : addRandomLayers x k o vals = .ok y) :
    1 ≤ k ∧ ∃ ls o', randomLayers (x.layers.headD default).nQubits k.toNat x.layers.getLast? o = .ok (ls, o') ∧
      y = ⟨x.nQubits, x.layers ++ ls, x.values ++ vals (totalParams ls)⟩ ∧ y.isValid = true := by
  unfold addRandomLayers at h
  rw [guard_eq_ok] at h
  obtain ⟨hk, h⟩ := h
  split at h
  · cases h
  · rename_i ls o' hr
    exact ⟨by omega, ls, o', hr, mkIndiv_eq_ok.mp h⟩

theorem randomIndividual_eq_ok {n k : Nat} {o : Oracle} {vals : Nat → List Val} {y : Indiv}
    (h : randomIndividual n k o vals = .ok y) :
    ∃ ls o', randomLayers n k none o = .ok (ls, o') ∧ y = ⟨n, ls, vals (totalParams ls)⟩ ∧ y.isValid = true := by
  unfold randomIndividual at h
  split at h
  · cases h
  · rename_i ls o' hr
    exact ⟨ls, o', hr, mkIndiv_eq_ok.mp h⟩

theorem totalParams_append (a b : List Layer) : totalParams (a ++ b) = totalParams a + totalParams b := by
  simp [totalParams]

theorem totalParams_take_le (ls : List Layer) (m : Nat) : totalParams (ls.take m) ≤ totalParams ls := by
  have := totalParams_append (ls.take m) (ls.drop m)
  rw [List.take_append_drop] at this
  omega

theorem offset_succ (ls : List Layer) (j : Nat) (hj : j < ls.length) :
    offset ls (j + 1) = offset ls j + (ls.getD j default).nParams := by
  unfold offset
  rw [List.take_add_one, totalParams_append]
  simp [List.getElem?_eq_getElem hj, totalParams, List.getD_eq_getElem?_getD]

theorem layerValues_length (x : Indiv) (hlen : totalParams x.layers ≤ x.values.length) (i : Nat) (hi : i < x.layers.length) :
    (layerValues x i).length = (x.layers.getD i default).nParams := by
  unfold layerValues
  simp only [List.length_take, List.length_drop]
  have h1 := totalParams_take_le x.layers (i + 1)
  have h2 := offset_succ x.layers i hi
  unfold offset at h2 ⊢
  omega

theorem map_getD_range {α β} (l : List α) (d : α) (f : α → β) : (List.range l.length).map (fun i => f (l.getD i d)) = l.map f :=
  List.ext_getElem (by simp) fun i h _ => by
    have hi : i < l.length := by simpa using h
    simp [List.getD_eq_getElem?_getD, List.getElem?_eq_getElem hi]

theorem chunk_get {α} : ∀ (cs : List (List α)) (j : Nat) (hj : j < cs.length),
    (cs.flatten.drop ((cs.take j).map List.length).sum).take (cs[j]).length = cs[j]
  | c :: cs, 0, _ => by simp
  | c :: cs, j + 1, hj => by
      simp only [List.take_succ_cons, List.map_cons, List.sum_cons, List.flatten_cons, List.getElem_cons_succ]
      rw [List.drop_append, List.drop_eq_nil_of_le (by omega), List.nil_append, Nat.add_sub_cancel_left]
      exact chunk_get cs j (by simpa using hj)

theorem layerValues_flatten (n : Nat) (ls : List Layer) (f : Nat → List Val)
    (hf : ∀ j, j < ls.length → (f j).length = (ls.getD j default).nParams) (j : Nat) (hj : j < ls.length) :
    layerValues ⟨n, ls, ((List.range ls.length).map f).flatten⟩ j = f j := by
  have hc : ((List.range ls.length).map f).map List.length = ls.map Layer.nParams := by
    rw [← map_getD_range ls default, List.map_map]
    exact List.map_congr_left fun j hj => hf j (List.mem_range.mp hj)
  have hoff : offset ls j = ((((List.range ls.length).map f).take j).map List.length).sum := by
    rw [offset, totalParams, List.map_take, ← hc, List.map_take]
  have := chunk_get ((List.range ls.length).map f) j (by simpa using hj)
  simp only [List.getElem_map, List.getElem_range] at this
  simp only [layerValues, hoff, ← hf j hj]
  exact this

theorem flatMap_layerValues_take (x : Indiv) : ∀ n, n ≤ x.layers.length →
    (List.range n).flatMap (layerValues x) = x.values.take (offset x.layers n)
  | 0, _ => by simp [offset, totalParams]
  | k + 1, hk => by
      rw [List.range_succ, List.flatMap_append, flatMap_layerValues_take x k (by omega), offset_succ x.layers k (by omega),
        List.take_add]
      simp [layerValues]

theorem values_eq_flatMap (x : Indiv) (hlen : x.values.length = totalParams x.layers) :
    (List.range x.layers.length).flatMap (layerValues x) = x.values := by
  rw [flatMap_layerValues_take x _ (Nat.le_refl _), offset, List.take_length, ← hlen, List.take_length]

theorem layerValues_append_left {n : Nat} {ls ls' : List Layer} {vs ws : List Val} (hlen : totalParams ls ≤ vs.length)
    {i : Nat} (hi : i < ls.length) :
    layerValues ⟨n, ls ++ ls', vs ++ ws⟩ i = layerValues ⟨n, ls, vs⟩ i := by
  have h1 := totalParams_take_le ls (i + 1)
  have h2 := offset_succ ls i hi
  simp only [layerValues, offset, List.getD_eq_getElem?_getD, List.getElem?_append_left hi,
    List.take_append_of_le_length (Nat.le_of_lt hi)] at h2 ⊢
  rw [List.drop_append_of_le_length (by omega), List.take_append_of_le_length (by rw [List.length_drop]; omega)]

theorem layerValues_append_right {n : Nat} {ls ls' : List Layer} {vs ws : List Val} (hlen : vs.length = totalParams ls)
    (j : Nat) : layerValues ⟨n, ls ++ ls', vs ++ ws⟩ (ls.length + j) = layerValues ⟨n, ls', ws⟩ j := by
  simp only [layerValues, offset, List.take_length_add_append, totalParams_append, ← hlen, List.drop_length_add_append,
    List.getD_eq_getElem?_getD, List.getElem?_append_right (Nat.le_add_right _ _), Nat.add_sub_cancel_left]

end QVerif.Genome
