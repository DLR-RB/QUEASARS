import QVerif.Model.Jssp
import QVerif.Lemmas.Except
import QVerif.Lemmas.Lists

/-! Helper lemmas for C19: `card`, the job loop, the neighbour check `chainOk` against pairwise statements
(`machine_check_iff` is the one DESIGN.md names). -/

namespace QVerif.Jssp

theorem card_le_length {α} [DecidableEq α] (l : List α) : card l ≤ l.length := by
  induction l with
  | nil => simp [card]
  | cons a l ih => simp only [card, List.length_cons]; split <;> omega

theorem card_eq_length_iff {α} [DecidableEq α] (l : List α) : card l = l.length ↔ l.Nodup := by
  induction l with
  | nil => simp [card]
  | cons a l ih =>
    have hle := card_le_length l
    simp only [card, List.length_cons, List.nodup_cons]
    split
    · rename_i h; constructor
      · intro h'; omega
      · intro h'; exact absurd h h'.1
    · rename_i h; constructor
      · intro h'; exact ⟨h, ih.mp (by omega)⟩
      · intro h'; have := ih.mpr h'.2; omega

theorem card_ne_length_iff {α} [DecidableEq α] (l : List α) : ¬ card l ≠ l.length ↔ l.Nodup := by
  rw [Classical.not_not, card_eq_length_iff]

theorem jobLoop_ok_iff (n : String) (ops : List Operation) (visited : List Machine) :
    jobLoop n ops visited = .ok () ↔
      (∀ o ∈ ops, o.jobName = n) ∧ (∀ o ∈ ops, o.machine ∉ visited) ∧ (ops.map Operation.machine).Nodup := by
  induction ops generalizing visited with
  | nil => simp [jobLoop]
  | cons o rest ih =>
    simp only [jobLoop, guard_eq_ok, ih, List.mem_cons, List.map_cons, List.nodup_cons, List.mem_map, not_or,
      ne_eq, Classical.not_not]
    grind

def disj (a b : Slot) : Prop := a.fin ≤ b.start ∨ b.fin ≤ a.start

abbrev before (a b : Slot) : Prop := a.fin ≤ b.start

theorem chainOk_iff_before {l : List Slot} (hpos : ∀ o ∈ l, 0 < o.dur) : chainOk l = true ↔ l.Pairwise before := by
  induction l with
  | nil => simp [chainOk]
  | cons a t ih =>
    have iht := ih (fun o ho => hpos o (List.mem_cons_of_mem _ ho))
    cases t with
    | nil => simp [chainOk]
    | cons b t' =>
      simp only [chainOk, Bool.and_eq_true, Bool.not_eq_eq_eq_not, Bool.not_true, decide_eq_false_iff_not, Int.not_lt,
        iht, List.pairwise_cons (a := a), List.forall_mem_cons]
      show (b.start ≥ a.fin ∧ (b :: t').Pairwise before) ↔ ((before a b ∧ ∀ c ∈ t', before a c) ∧ (b :: t').Pairwise before)
      have hb := hpos b (by simp)
      constructor
      · rintro ⟨hab, hp⟩
        refine ⟨⟨hab, fun c hc => ?_⟩, hp⟩
        -- a ends before b starts, b lasts, b ends before c starts
        have hbc : before b c := (List.pairwise_cons.mp hp).1 c hc
        simp only [before, Slot.fin] at *; omega
      · rintro ⟨⟨hab, _⟩, hp⟩; exact ⟨hab, hp⟩

theorem before_last {l : List Slot} {z : Slot} (hpos : ∀ o ∈ l, 0 < o.dur) (hc : l.Pairwise before)
    (hz : l.getLast? = some z) : ∀ o ∈ l, o.fin ≤ z.fin := by
  obtain ⟨init, rfl⟩ := List.getLast?_eq_some_iff.mp hz
  intro o ho
  rcases List.mem_append.mp ho with ho | ho
  · have := (List.pairwise_append.mp hc).2.2 o ho z (by simp)
    have := hpos z (by simp)
    simp only [before, Slot.fin] at *; omega
  · simp only [List.mem_singleton] at ho; subst ho; exact Int.le_refl _

/-- `l'`: any start-sorted arrangement, so the order in which the sort leaves ties is irrelevant -/
theorem machine_check_iff {l l' : List Slot} (hp : l.Perm l')
    (hs : l'.Pairwise (fun a b => a.start ≤ b.start)) (hpos : ∀ o ∈ l, 0 < o.dur) :
    chainOk l' = true ↔ l.Pairwise disj := by
  have hpos' : ∀ o ∈ l', 0 < o.dur := fun o ho => hpos o (hp.mem_iff.mpr ho)
  rw [chainOk_iff_before hpos', hp.pairwise_iff (R := disj) Or.symm]
  constructor
  · exact fun h => h.imp Or.inl
  · intro h
    -- sorted by start and disjoint: the later one cannot be over before the earlier one starts
    refine (hs.and h).imp_of_mem fun {a b} _ hb hab => ?_
    have := hpos' b hb
    rcases hab.2 with h1 | h1
    · exact h1
    · have := hab.1; simp only [before, Slot.fin] at *; omega

theorem sortByStart_perm (l : List Slot) : (sortByStart l).Perm l := List.mergeSort_perm l _

theorem sortByStart_pairwise (l : List Slot) : (sortByStart l).Pairwise (fun a b => a.start ≤ b.start) :=
  pairwise_mergeSort_decide (r := fun a b => a.start ≤ b.start) (fun _ _ _ => Int.le_trans) (fun _ _ => Int.le_total _ _) l

theorem sorted_check_iff (l : List Slot) (hpos : ∀ o ∈ l, 0 < o.dur) :
    chainOk (sortByStart l) = true ↔ l.Pairwise disj :=
  machine_check_iff (sortByStart_perm l).symm (sortByStart_pairwise l) hpos

def Consec (l : List Slot) : Prop := ∀ i (h : i + 1 < l.length), l[i].fin ≤ l[i + 1].start

theorem chainOk_iff_consec (l : List Slot) : chainOk l = true ↔ Consec l := by
  induction l with
  | nil => simp [chainOk, Consec]
  | cons a t ih =>
    cases t with
    | nil => simp [chainOk, Consec]
    | cons b t' =>
      simp only [chainOk, Bool.and_eq_true, Bool.not_eq_eq_eq_not, Bool.not_true, decide_eq_false_iff_not,
        Int.not_lt, ih]
      constructor
      · rintro ⟨h1, h2⟩ i hi
        cases i with
        | zero => simpa using h1
        | succ j =>
          have := h2 j (by simp at hi ⊢; omega)
          simpa using this
      · intro h
        refine ⟨by simpa using h 0 (by simp), fun i hi => ?_⟩
        have := h (i + 1) (by simp at hi ⊢; omega)
        simpa using this

theorem per_machine_iff (machines : List Machine) (flat : List Slot) (hm : ∀ o ∈ flat, o.machine ∈ machines) :
    (∀ m ∈ machines, (flat.filter (fun o => o.machine = m)).Pairwise disj) ↔
      flat.Pairwise (fun a b => a.machine = b.machine → disj a b) := by
  constructor
  · intro h
    induction flat with
    | nil => exact List.Pairwise.nil
    | cons a t ih =>
      refine List.Pairwise.cons ?_ ?_
      · intro b hb hab
        have := h a.machine (hm a (by simp))
        simp only [List.filter_cons, decide_true, ↓reduceIte, List.pairwise_cons, List.mem_filter,
          decide_eq_true_eq] at this
        exact this.1 b ⟨hb, hab.symm⟩
      · apply ih (fun o ho => hm o (List.mem_cons_of_mem _ ho))
        intro m hmm
        have := h m hmm
        simp only [List.filter_cons] at this
        split at this
        · exact (List.pairwise_cons.mp this).2
        · exact this
  · intro h m _
    rw [List.pairwise_filter]
    exact h.imp (by
      intro a b hab ha hb
      simp only [decide_eq_true_eq] at ha hb
      exact hab (ha.trans hb.symm))

end QVerif.Jssp
